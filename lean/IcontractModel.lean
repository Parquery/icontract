import IcontractModel.AllTrace
import IcontractModel.Basic
import IcontractModel.Bind
import IcontractModel.Chain
import IcontractModel.Checker
import IcontractModel.Conc
import IcontractModel.Config
import IcontractModel.Decor
import IcontractModel.Expr
import IcontractModel.Inv
import IcontractModel.Lemmas.BindLemmas
import IcontractModel.Lemmas.Capture
import IcontractModel.Lemmas.ChainLemmas
import IcontractModel.Lemmas.ChainPre
import IcontractModel.Lemmas.ClassTable
import IcontractModel.Lemmas.ConcLemmas
import IcontractModel.Lemmas.CondLookup
import IcontractModel.Lemmas.DagInvLemmas
import IcontractModel.Lemmas.DagLemmas
import IcontractModel.Lemmas.DagSnapLemmas
import IcontractModel.Lemmas.ExprInd
import IcontractModel.Lemmas.ExprWf
import IcontractModel.Lemmas.Frames
import IcontractModel.Lemmas.Generic
import IcontractModel.Lemmas.GenericWrapper
import IcontractModel.Lemmas.Heap
import IcontractModel.Lemmas.Instances
import IcontractModel.Lemmas.InvTable
import IcontractModel.Lemmas.Kwargs
import IcontractModel.Lemmas.Leaves
import IcontractModel.Lemmas.ListLemmas
import IcontractModel.Lemmas.Lookup
import IcontractModel.Lemmas.MetaClass
import IcontractModel.Lemmas.MetaFrame
import IcontractModel.Lemmas.Order
import IcontractModel.Lemmas.Override
import IcontractModel.Lemmas.Post
import IcontractModel.Lemmas.Reentry
import IcontractModel.Lemmas.ReentryRun
import IcontractModel.Lemmas.ReentrySim
import IcontractModel.Lemmas.ReentryTermination
import IcontractModel.Lemmas.Reeval
import IcontractModel.Lemmas.ReevalCounterexamples
import IcontractModel.Lemmas.ReevalLog
import IcontractModel.Lemmas.ReevalMain
import IcontractModel.Lemmas.ReprLines
import IcontractModel.Lemmas.ReprPairs
import IcontractModel.Lemmas.Res
import IcontractModel.Lemmas.Separation
import IcontractModel.Lemmas.Shows
import IcontractModel.Lemmas.SrcScanLemmas
import IcontractModel.Lemmas.StackLemmas
import IcontractModel.Lemmas.Strip
import IcontractModel.Meta
import IcontractModel.Props.C01
import IcontractModel.Props.C02
import IcontractModel.Props.C03
import IcontractModel.Props.C04
import IcontractModel.Props.C05
import IcontractModel.Props.C06
import IcontractModel.Props.C07
import IcontractModel.Props.C08
import IcontractModel.Props.C09
import IcontractModel.Props.C10
import IcontractModel.Props.C11
import IcontractModel.Props.C12
import IcontractModel.Props.C13
import IcontractModel.Props.C14
import IcontractModel.Props.C15
import IcontractModel.Props.C16
import IcontractModel.Props.C17
import IcontractModel.Props.C18
import IcontractModel.Props.C19
import IcontractModel.Props.C20
import IcontractModel.Recompute
import IcontractModel.Reentry
import IcontractModel.Represent
import IcontractModel.Sig
import IcontractModel.Spec.Bare
import IcontractModel.Spec.ChainHistory
import IcontractModel.Spec.DagHistory
import IcontractModel.Spec.DagHistoryInv
import IcontractModel.Spec.DagHistorySnaps
import IcontractModel.Spec.Dnf
import IcontractModel.Spec.Frames
import IcontractModel.Spec.Override
import IcontractModel.Spec.Post
import IcontractModel.Spec.PyBind
import IcontractModel.Spec.PyEval
import IcontractModel.Spec.Trace
import IcontractModel.SrcScan
import IcontractModel.Stack
