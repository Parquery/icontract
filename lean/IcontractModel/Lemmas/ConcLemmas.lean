/-
  Under the `perContext` discipline every task owns the binding of its context.
  Hence a per-task invariant (`TInv`: what the program counter says about the value bound there, relative to
  the task's "home" value) survives every micro-step of every task (`TInv.microStep`), and the world invariant
  `Inv` every operation of a schedule whose context copies are safe (`Inv.step`, `Inv.spawned`, `Inv.fork`).
-/
import IcontractModel.Conc
import IcontractModel.Lemmas.ListLemmas
namespace Icontract.Conc

theorem set_eq_self {α} {l : List α} {c : Nat} {a : α} (h : ∀ x, l[c]? = some x → x = a) :
    l.set c a = l := by
  by_cases hc : c < l.length
  · rw [← h _ (List.getElem?_eq_getElem hc)]
    exact List.set_getElem_self hc
  · exact List.set_eq_of_length_le (Nat.le_of_not_lt hc)

theorem putSet_eq (w : World) (c : Nat) (s : List Id) : putSet w c s = { w with sets := w.sets.set c s } :=
  congrArg (fun l => { w with sets := l }) (mapIdx_ite_eq_set w.sets c s)

theorem putTask_eq (w : World) (i : Nat) (t : Conc.Task) : putTask w i t = { w with tasks := w.tasks.set i t } :=
  congrArg (fun l => { w with tasks := l }) (mapIdx_ite_eq_set w.tasks i t)

theorem putSet_tasks (w : World) (c : Nat) (s : List Id) : (putSet w c s).tasks = w.tasks := rfl
theorem putTask_sets (w : World) (i : Nat) (t : Conc.Task) : (putTask w i t).sets = w.sets := rfl

theorem putSet_sets_length (w : World) (c : Nat) (s : List Id) :
    (putSet w c s).sets.length = w.sets.length := by
  rw [putSet_eq, List.length_set]

theorem putTask_tasks_length (w : World) (i : Nat) (t : Conc.Task) :
    (putTask w i t).tasks.length = w.tasks.length := by
  rw [putTask_eq, List.length_set]

theorem getSet_putSet_self {w : World} {c : Nat} {s : List Id} (h : c < w.sets.length) :
    getSet (putSet w c s) c = s := by
  rw [getSet, putSet_eq, List.getElem?_set_self h]
  rfl

theorem getSet_putSet_ne {w : World} {c c' : Nat} {s : List Id} (h : c' ≠ c) :
    getSet (putSet w c s) c' = getSet w c' := by
  rw [getSet, putSet_eq, List.getElem?_set_ne (Ne.symm h)]
  rfl

theorem getSet_putTask (w : World) (i : Nat) (t : Conc.Task) (c : Nat) :
    getSet (putTask w i t) c = getSet w c := rfl

theorem putSet_getSet (w : World) (c : Nat) : putSet w c (getSet w c) = w := by
  rw [putSet_eq, set_eq_self]
  intro x hx
  rw [getSet, hx]
  rfl

theorem putTask_self {w : World} {i : Nat} {t : Conc.Task} (h : w.tasks[i]? = some t) :
    putTask w i t = w := by
  rw [putTask_eq, set_eq_self]
  exact fun x hx => Option.some.inj (hx.symm.trans h)

theorem start_tasks {ps : List (List CallSpec)} {i : Nat} {t : Conc.Task}
    (h : (World.start ps).tasks[i]? = some t) :
    ∃ p, ps[i]? = some p ∧ t = { ctx := i, calls := p, program := p } := by
  rw [World.start, List.getElem?_map, List.getElem?_zipIdx, Nat.zero_add, Option.map_map,
    Option.map_eq_some_iff] at h
  obtain ⟨p, hp, rfl⟩ := h
  exact ⟨p, hp, rfl⟩

theorem start_getSet (ps : List (List CallSpec)) (c : Nat) : getSet (World.start ps) c = [] := by
  simp only [getSet, World.start, List.getElem?_map]
  cases ps[c]? <;> rfl

theorem expected_violation {c : CallSpec} (hk : c.kind ≠ .ctor) (hp : c.preTruthy = false) :
    c.expected = .violation := by
  rw [CallSpec.expected, bne_iff_ne.2 hk, hp]
  rfl

theorem expected_post {c : CallSpec} (hp : c.kind ≠ .ctor → c.preTruthy = true) :
    c.expected = (if c.postTruthy then .returned else .postViolation) := by
  rw [CallSpec.expected]
  by_cases hk : c.kind = .ctor
  · rw [hk]
    rfl
  · rw [hp hk, Bool.not_true, Bool.and_false]
    rfl

/-- what the program counter says about the value bound in the task's own context; `h` is the task's
"home" value: the value bound whenever it is between two calls -/
def PcOk (h : List Id) (calls : List CallSpec) (cur : List Id) : Pc → Prop
  | .idle => cur = h
  | .inCond _ e => e = h ∧ ∃ c rest, calls = c :: rest ∧ c.kind ≠ .ctor ∧ cur = addId h c.f
  | .inBody _ true e => e = h ∧ ∃ c rest, calls = c :: rest ∧ (c.kind ≠ .ctor → c.preTruthy = true) ∧
      cur = (if c.kind = .function then h else addId h c.f)
  | .inBody _ false _ => False
  | .inPost _ e => e = h ∧ ∃ c rest, calls = c :: rest ∧ (c.kind ≠ .ctor → c.preTruthy = true) ∧
      cur = addId h c.f

/-- `t` is a reachable state of a task whose home value is `h`; `cur` is the value bound in its context now -/
structure TInv (h : List Id) (t : Conc.Task) (cur : List Id) : Prop where
  prog : ∃ done, t.program = done ++ t.calls ∧ t.verdicts = done.map CallSpec.expected
  home : ∀ c ∈ t.calls, h.contains c.f = false
  pc : PcOk h t.calls cur t.pc

theorem TInv.stay {h : List Id} {t : Conc.Task} {cur : List Id} (hI : TInv h t cur) {pc' : Pc}
    {cur' : List Id} (hpc : PcOk h t.calls cur' pc') : TInv h { t with pc := pc' } cur' :=
  ⟨hI.prog, hI.home, hpc⟩

theorem TInv.finish {h : List Id} {t : Conc.Task} {cur : List Id} {c : CallSpec} {rest : List CallSpec}
    {v : Verdict} (hI : TInv h t cur) (hc : t.calls = c :: rest) (hv : c.expected = v) :
    TInv h { t with pc := .idle, calls := rest, verdicts := t.verdicts ++ [v] } h := by
  obtain ⟨done, hd, hv'⟩ := hI.prog
  refine ⟨⟨done ++ [c], ?_, ?_⟩, fun c' hc' => hI.home c' (hc ▸ List.mem_cons_of_mem _ hc'), rfl⟩
  · rw [hd, hc, List.append_assoc]; rfl
  · rw [hv', List.map_append, ← hv]; rfl

theorem TInv.microStep {h : List Id} {w : World} {i : Nat} {t : Conc.Task} (ht : w.tasks[i]? = some t)
    (hI : TInv h t (getSet w t.ctx)) :
    ∃ t' cur', Conc.microStep .perContext w i = putTask (putSet w t.ctx cur') i t' ∧ t'.ctx = t.ctx ∧
      TInv h t' cur' := by
  have hpc := hI.pc
  obtain ⟨ctx, calls, pc, verdicts, program⟩ := t
  unfold Conc.microStep
  rw [ht]
  have same : ∀ t' : Conc.Task, putTask w i t' = putTask (putSet w ctx (getSet w ctx)) i t' :=
    fun t' => by rw [putSet_getSet]
  -- the invariant leaves one live branch per arm of `microStep`: the re-entrant path and the arms for an
  -- empty call list are excluded by `PcOk` and `home`; `PcOk` does not look at the counter, so it passes
  -- through a countdown step as it is
  cases pc with
  | idle =>
    cases calls with
    | nil => exact ⟨_, _, (putTask_self ht).symm.trans (same _), rfl, hI⟩
    | cons c rest =>
      -- wrapper entry: the home value is bound and marks nothing the task calls, so the checked path is taken
      have hcur : getSet w ctx = h := hpc
      have hc : ¬ (getSet w ctx).contains c.f = true := by
        rw [hcur, hI.home c List.mem_cons_self]
        exact Bool.false_ne_true
      dsimp only
      rw [if_neg hc]
      split
      · next hk =>
        exact ⟨_, _, rfl, rfl, hI.stay ⟨hcur, c, rest, rfl, fun hn => absurd hk hn, by rw [hcur, hk]; rfl⟩⟩
      · next hk => exact ⟨_, _, rfl, rfl, hI.stay ⟨hcur, c, rest, rfl, hk, by rw [hcur]⟩⟩
  | inCond n e =>
    cases n with
    | succ n => exact ⟨_, _, same _, rfl, hI.stay hpc⟩
    | zero =>
      obtain ⟨rfl, c, rest, rfl, hk, hcur⟩ := hpc
      dsimp only
      cases hp : c.preTruthy with
      | false =>
        rw [if_neg Bool.false_ne_true]
        exact ⟨_, _, rfl, rfl, hI.finish rfl (expected_violation hk hp)⟩
      | true =>
        rw [if_pos rfl]
        split
        · next hf => exact ⟨_, _, rfl, rfl, hI.stay ⟨rfl, c, rest, rfl, fun _ => hp, (if_pos hf).symm⟩⟩
        · next hf =>
          exact ⟨_, _, same _, rfl, hI.stay ⟨rfl, c, rest, rfl, fun _ => hp, hcur.trans (if_neg hf).symm⟩⟩
  | inBody n ck e =>
    cases ck with
    | false => exact hpc.elim
    | true =>
      cases n with
      | succ n => exact ⟨_, _, same _, rfl, hI.stay hpc⟩
      | zero =>
        obtain ⟨rfl, c, rest, rfl, hp, hcur⟩ := hpc
        dsimp only
        rw [if_pos rfl]
        split
        · exact ⟨_, _, rfl, rfl, hI.stay ⟨rfl, c, rest, rfl, hp, rfl⟩⟩
        · next hf =>
          exact ⟨_, _, same _, rfl, hI.stay ⟨rfl, c, rest, rfl, hp, hcur.trans (if_neg hf)⟩⟩
  | inPost n e =>
    cases n with
    | succ n => exact ⟨_, _, same _, rfl, hI.stay hpc⟩
    | zero =>
      obtain ⟨rfl, c, rest, rfl, hp, _⟩ := hpc
      exact ⟨_, _, rfl, rfl, hI.finish rfl (expected_post hp)⟩

theorem TInv.verdicts_take {h : List Id} {t : Conc.Task} {cur : List Id} (hI : TInv h t cur) :
    t.verdicts = (t.program.take t.verdicts.length).map CallSpec.expected ∧
    t.program = t.program.take t.verdicts.length ++ t.calls := by
  obtain ⟨done, hd, hv⟩ := hI.prog
  have htake : t.program.take t.verdicts.length = done := by
    rw [hv, List.length_map, hd, List.take_left]
  rw [htake]
  exact ⟨hv, hd⟩

theorem TInv.checked {h : List Id} {t : Conc.Task} {cur : List Id} (hI : TInv h t cur) :
    ∀ n e, t.pc ≠ .inBody n false e := by
  intro n e hpc
  have := hI.pc
  rw [hpc] at this
  exact this

/-- the task is between two calls, or in the body of a function (whose mark is lifted for the body) -/
def Task.outsideChecks (t : Conc.Task) : Bool :=
  match t.pc, t.calls with
  | .idle, _ => true
  | .inBody _ true _, c :: _ => c.kind == .function
  | _, _ => false

theorem TInv.outside_home {h : List Id} {t : Conc.Task} {cur : List Id} (hI : TInv h t cur)
    (ho : Task.outsideChecks t = true) : cur = h := by
  have hpc := hI.pc
  obtain ⟨ctx, calls, pc, verdicts, program⟩ := t
  cases pc with
  | idle => exact hpc
  | inCond n e => cases ho
  | inPost n e => cases ho
  | inBody n ck e =>
    cases ck with
    | false => exact hpc.elim
    | true =>
      obtain ⟨_, c, rest, rfl, _, hcur⟩ := hpc
      rw [hcur, if_pos (beq_iff_eq.1 ho)]

/-- every task has its own in-range context and satisfies the per-task invariant for some home value
with the property `P` -/
structure Inv (P : List Id → Prop) (w : World) : Prop where
  distinctCtx : ∀ (i j : Nat) (ti tj : Conc.Task), w.tasks[i]? = some ti → w.tasks[j]? = some tj → i ≠ j →
    ti.ctx ≠ tj.ctx
  ctxInRange : ∀ (i : Nat) (ti : Conc.Task), w.tasks[i]? = some ti → ti.ctx < w.sets.length
  task : ∀ (i : Nat) (t : Conc.Task), w.tasks[i]? = some t → ∃ h, P h ∧ TInv h t (getSet w t.ctx)

theorem Inv.mono {P Q : List Id → Prop} {w : World} (hPQ : ∀ h, P h → Q h) (hI : Inv P w) : Inv Q w :=
  ⟨hI.distinctCtx, hI.ctxInRange, fun i t ht =>
    let ⟨h, hP, hT⟩ := hI.task i t ht
    ⟨h, hPQ h hP, hT⟩⟩

/-- every task has its own binding, is about to start its program, and no task starts inside a check of
something it calls -/
structure WellFormed (w : World) : Prop where
  distinctCtx : ∀ (i j : Nat) (ti tj : Conc.Task), w.tasks[i]? = some ti → w.tasks[j]? = some tj → i ≠ j →
    ti.ctx ≠ tj.ctx
  ctxInRange : ∀ (i : Nat) (ti : Conc.Task), w.tasks[i]? = some ti → ti.ctx < w.sets.length
  startIdle : ∀ (i : Nat) (ti : Conc.Task), w.tasks[i]? = some ti →
    ti.pc = .idle ∧ ti.verdicts = [] ∧ ti.program = ti.calls
  notInProgress : ∀ (i : Nat) (ti : Conc.Task), w.tasks[i]? = some ti →
    ∀ c ∈ ti.calls, (getSet w ti.ctx).contains c.f = false

theorem Inv.init {P : List Id → Prop} {w : World} (hw : WellFormed w) (hP : ∀ c, P (getSet w c)) :
    Inv P w := by
  refine ⟨hw.distinctCtx, hw.ctxInRange, fun i t ht => ?_⟩
  obtain ⟨hpc, hv, hprog⟩ := hw.startIdle i t ht
  refine ⟨getSet w t.ctx, hP _, ⟨[], hprog, hv⟩, hw.notInProgress i t ht, ?_⟩
  rw [hpc]
  exact rfl

theorem Inv.update {P : List Id → Prop} {w : World} (h : Inv P w) {j : Nat} {tj t' : Conc.Task}
    {s hh : List Id} (hj : w.tasks[j]? = some tj) (hctx : t'.ctx = tj.ctx) (hP : P hh)
    (hT : TInv hh t' s) : Inv P (putTask (putSet w tj.ctx s) j t') := by
  have hget : ∀ i t, (putTask (putSet w tj.ctx s) j t').tasks[i]? = some t →
      (i = j ∧ t = t') ∨ (i ≠ j ∧ w.tasks[i]? = some t) := by
    intro i t ht
    simp only [putTask_eq, putSet_tasks] at ht
    by_cases hij : i = j
    · rw [hij, List.getElem?_set_self (List.getElem?_eq_some_iff.1 hj).1] at ht
      exact Or.inl ⟨hij, (Option.some.inj ht).symm⟩
    · rw [List.getElem?_set_ne (Ne.symm hij)] at ht
      exact Or.inr ⟨hij, ht⟩
  have hsame : ∀ (i : Nat) (t : Conc.Task), (putTask (putSet w tj.ctx s) j t').tasks[i]? = some t →
      ∃ t0 : Conc.Task, w.tasks[i]? = some t0 ∧ t0.ctx = t.ctx := by
    intro i t ht
    rcases hget i t ht with ⟨rfl, rfl⟩ | ⟨_, ht'⟩
    · exact ⟨tj, hj, hctx.symm⟩
    · exact ⟨t, ht', rfl⟩
  refine ⟨?_, ?_, ?_⟩
  · intro i k ti tk hi hk hik
    obtain ⟨ti', hi', hci⟩ := hsame i ti hi
    obtain ⟨tk', hk', hck⟩ := hsame k tk hk
    rw [← hci, ← hck]
    exact h.distinctCtx i k ti' tk' hi' hk' hik
  · intro i ti hi
    obtain ⟨ti', hi', hci⟩ := hsame i ti hi
    rw [← hci, putTask_sets, putSet_sets_length]
    exact h.ctxInRange i ti' hi'
  · intro i t ht
    rcases hget i t ht with ⟨rfl, rfl⟩ | ⟨hij, ht'⟩
    · rw [hctx, getSet_putTask, getSet_putSet_self (h.ctxInRange i tj hj)]
      exact ⟨hh, hP, hT⟩
    · obtain ⟨hi, hPi, hTi⟩ := h.task i t ht'
      refine ⟨hi, hPi, ?_⟩
      rw [getSet_putTask, getSet_putSet_ne (h.distinctCtx i j t tj ht' hj hij)]
      exact hTi

theorem Inv.microStep {P : List Id → Prop} {w : World} (h : Inv P w) (j : Nat) :
    Inv P (microStep .perContext w j) := by
  cases hj : w.tasks[j]? with
  | none =>
    unfold Conc.microStep
    rw [hj]
    exact h
  | some tj =>
    obtain ⟨hh, hP, hT⟩ := h.task j tj hj
    obtain ⟨t', cur', heq, hctx, hT'⟩ := hT.microStep hj
    rw [heq]
    exact h.update hj hctx hP hT'

theorem stepFuel_ind {d : Discipline} {Q : World → Prop} {j : Nat} (hQ : ∀ w, Q w → Q (microStep d w j)) :
    ∀ (fuel : Nat) {w : World}, Q w → Q (stepFuel d fuel w j) := by
  intro fuel
  induction fuel with
  | zero => exact fun h => h
  | succ n ih =>
    intro w h
    unfold Conc.stepFuel
    cases w.tasks[j]? with
    | none => exact h
    | some t =>
      dsimp only
      split
      · exact h
      · split
        · exact hQ w h
        · exact ih (hQ w h)

theorem Inv.step {P : List Id → Prop} {w : World} (h : Inv P w) (j : Nat) :
    Inv P (step .perContext w j) := stepFuel_ind (fun _ h => h.microStep j) 5 h  -- 5: the fuel `step` gives

/-- the world after a task has been created in a new context whose value is `s` -/
def spawned (w : World) (s : List Id) (calls : List CallSpec) : World :=
  { sets := w.sets ++ [s],
    tasks := w.tasks ++ [{ ctx := w.sets.length, calls := calls, program := calls }] }

theorem spawn_some (w : World) (p : Nat) (calls : List CallSpec) :
    spawn .perContext w (some p) calls =
      spawned w (match w.tasks[p]? with | none => [] | some tp => getSet w tp.ctx) calls := by
  unfold spawn spawned
  dsimp only
  cases w.tasks[p]? <;> rfl

theorem getSet_spawned_lt {w : World} {s : List Id} {calls : List CallSpec} {c : Nat}
    (hc : c < w.sets.length) : getSet (spawned w s calls) c = getSet w c := by
  rw [getSet, spawned, List.getElem?_append_left hc]
  rfl

theorem getSet_spawned_new (w : World) (s : List Id) (calls : List CallSpec) :
    getSet (spawned w s calls) w.sets.length = s := by
  rw [getSet, spawned, List.getElem?_concat_length]
  rfl

theorem tasks_spawned {w : World} {s : List Id} {calls : List CallSpec} {i : Nat} {t : Conc.Task}
    (ht : (spawned w s calls).tasks[i]? = some t) :
    w.tasks[i]? = some t ∨
      (i = w.tasks.length ∧ t = { ctx := w.sets.length, calls := calls, program := calls }) := by
  rw [spawned] at ht
  rcases Nat.lt_trichotomy i w.tasks.length with hi | rfl | hi
  · exact Or.inl ((List.getElem?_append_left hi).symm.trans ht)
  · rw [List.getElem?_concat_length] at ht
    exact Or.inr ⟨rfl, (Option.some.inj ht).symm⟩
  · rw [List.getElem?_eq_none (List.length_append ▸ hi)] at ht
    cases ht

theorem Inv.spawned {P : List Id → Prop} {w : World} (h : Inv P w) {s : List Id} {calls : List CallSpec}
    (hP : P s) (hs : ∀ c ∈ calls, s.contains c.f = false) : Inv P (spawned w s calls) := by
  refine ⟨?_, ?_, ?_⟩
  · intro i j ti tj hi hj hij
    rcases tasks_spawned hi with hi' | ⟨hi1, hi2⟩ <;> rcases tasks_spawned hj with hj' | ⟨hj1, hj2⟩
    · exact h.distinctCtx i j ti tj hi' hj' hij
    · subst hj2
      exact Nat.ne_of_lt (h.ctxInRange i ti hi')
    · subst hi2
      exact (Nat.ne_of_lt (h.ctxInRange j tj hj')).symm
    · exact absurd (hi1.trans hj1.symm) hij
  · intro i ti hi
    have hlen : (Conc.spawned w s calls).sets.length = w.sets.length + 1 := List.length_append
    rw [hlen]
    rcases tasks_spawned hi with hi' | ⟨_, hi2⟩
    · exact Nat.lt_succ_of_lt (h.ctxInRange i ti hi')
    · subst hi2
      exact Nat.lt_succ_self _
  · intro i t ht
    rcases tasks_spawned ht with ht' | ⟨_, ht2⟩
    · obtain ⟨hh, hPh, hT⟩ := h.task i t ht'
      refine ⟨hh, hPh, ?_⟩
      rw [getSet_spawned_lt (h.ctxInRange i t ht')]
      exact hT
    · subst ht2
      refine ⟨s, hP, ⟨[], rfl, rfl⟩, hs, ?_⟩
      exact getSet_spawned_new w s calls

theorem opSafe_fork {w : World} {p : Nat} {calls : List CallSpec} :
    opSafe w (.fork p calls) = true ↔
      ∀ tp, w.tasks[p]? = some tp → ∀ c ∈ calls, (getSet w tp.ctx).contains c.f = false := by
  rw [opSafe]
  cases w.tasks[p]? with
  | none => exact ⟨nofun, fun _ => rfl⟩
  | some tp => simp only [List.all_eq_true, Bool.not_eq_true', Option.some.injEq, forall_eq']

theorem Inv.fork {P : List Id → Prop} {w : World} (h : Inv P w) (hP0 : P []) {p : Nat}
    {calls : List CallSpec} (hsafe : opSafe w (.fork p calls) = true)
    (hP : ∀ tp, w.tasks[p]? = some tp → P (getSet w tp.ctx)) :
    Inv P (spawn .perContext w (some p) calls) := by
  rw [spawn_some]
  cases htp : w.tasks[p]? with
  | none => exact h.spawned hP0 (fun _ _ => rfl)
  | some tp => exact h.spawned (hP tp htp) (opSafe_fork.1 hsafe tp htp)

theorem Inv.runOps {ops : List Op} {w : World} (h : Inv (fun _ => True) w)
    (hs : safeOps .perContext w ops = true) : Inv (fun _ => True) (runOps .perContext w ops) := by
  induction ops generalizing w with
  | nil => exact h
  | cons op rest ih =>
    rw [safeOps, Bool.and_eq_true] at hs
    refine ih ?_ hs.2
    cases op with
    | run i => exact h.step i
    | thread calls => exact h.spawned trivial (fun _ _ => rfl)
    | fork p calls => exact h.fork trivial hs.1 (fun _ _ => trivial)

theorem exists_TInv_of_safeOps {w0 : World} (hw : WellFormed w0) {ops : List Op}
    (hs : safeOps .perContext w0 ops = true) {i : Nat} {t : Conc.Task}
    (h : (runOps .perContext w0 ops).tasks[i]? = some t) :
    ∃ hh, TInv hh t (getSet (runOps .perContext w0 ops) t.ctx) := by
  obtain ⟨hh, _, hT⟩ := (Inv.runOps (Inv.init hw fun _ => trivial) hs).task i t h
  exact ⟨hh, hT⟩

/-- every context copy in the schedule is made while the parent is outside its checks -/
def copiesOutsideChecks (d : Discipline) : World → List Op → Bool
  | _, [] => true
  | w, op :: rest =>
    (match op with
     | .fork p _ => (match w.tasks[p]? with | none => true | some tp => Task.outsideChecks tp)
     | _ => true) && copiesOutsideChecks d (applyOp d w op) rest

theorem safeOps_of_copiesOutsideChecks {ops : List Op} {w : World} (hI : Inv (fun h => h = []) w)
    (hc : copiesOutsideChecks .perContext w ops = true) : safeOps .perContext w ops = true := by
  induction ops generalizing w with
  | nil => rfl
  | cons op rest ih =>
    simp only [copiesOutsideChecks, Bool.and_eq_true] at hc
    rw [safeOps, Bool.and_eq_true]
    cases op with
    | run i => exact ⟨rfl, ih (hI.step i) hc.2⟩
    | thread calls => exact ⟨rfl, ih (hI.spawned rfl fun _ _ => rfl) hc.2⟩
    | fork p calls =>
      -- a parent outside its checks has its home value bound, which is empty
      have hnil : ∀ tp, w.tasks[p]? = some tp → getSet w tp.ctx = [] := by
        intro tp htp
        obtain ⟨hh, rfl, hT⟩ := hI.task p tp htp
        exact hT.outside_home (by simpa only [htp] using hc.1)
      have hsafe : opSafe w (.fork p calls) = true :=
        opSafe_fork.2 fun tp htp _ _ => by rw [hnil tp htp]; rfl
      exact ⟨hsafe, ih (hI.fork rfl hsafe hnil) hc.2⟩

end Icontract.Conc
