/-
  The decision table of C03(a) rests on one closed form of `Meta.wrapCandidate` in the vocabulary of
  the specification (`exemptNames`, `isPublicOrDunder`), on the fact that a name written with two
  underscores at either end is a dunder name, and on the literal names being distinct.
-/
import IcontractModel.Inv
namespace Icontract.Inv
open Icontract.Meta

theorem endsWith_iff (s pat : String) : s.endsWith pat = true ↔ pat.toList <:+ s.toList := by
  rw [← String.endsWith_toSlice, String.Slice.endsWith_string_iff]; simp

theorem isDunderName_ofList (mid : List Char) :
    isDunderName (String.ofList ('_' :: '_' :: (mid ++ ['_', '_']))) = true := by
  have hpre : "__".toList <+: '_' :: '_' :: (mid ++ ['_', '_']) := ⟨mid ++ ['_', '_'], rfl⟩
  have hsuf : "__".toList <:+ '_' :: '_' :: (mid ++ ['_', '_']) := ⟨'_' :: '_' :: mid, by simp⟩
  simp only [isDunderName, Bool.and_eq_true, String.startsWith_string_iff, endsWith_iff,
    String.toList_ofList]
  exact ⟨hpre, hsuf⟩

-- a string literal unfolds to `String.ofList` of its characters, so each instance is found by unification
theorem dunder_init : isDunderName "__init__" = true := isDunderName_ofList ['i', 'n', 'i', 't']
theorem dunder_setattr : isDunderName "__setattr__" = true :=
  isDunderName_ofList ['s', 'e', 't', 'a', 't', 't', 'r']
theorem dunder_new : isDunderName "__new__" = true := isDunderName_ofList ['n', 'e', 'w']
theorem dunder_repr : isDunderName "__repr__" = true := isDunderName_ofList ['r', 'e', 'p', 'r']
theorem dunder_getattribute : isDunderName "__getattribute__" = true :=
  isDunderName_ofList ['g', 'e', 't', 'a', 't', 't', 'r', 'i', 'b', 'u', 't', 'e']

theorem unionOn_call (invs : List CheckOn) : (unionOn invs).call = invs.any (·.call) := rfl
theorem unionOn_setattr (invs : List CheckOn) : (unionOn invs).setattr = invs.any (·.setattr) := rfl

-- The closed form compares names as propositions: `simp` refutes an equation between two literals from
-- one differing character, whereas `==` between literals is evaluated through their UTF-8 encoding,
-- which is slow in the kernel.
theorem wrapCandidate_eq (last : CheckOn) (key : String) (m : Member) :
    wrapCandidate last key m =
      if key ∈ exemptNames then false
      else if key = "__init__" then (match m with | .func _ => true | _ => false)
      else (if key = "__setattr__" then last.setattr else last.call) && isPublicOrDunder key &&
        (match m with | .func _ => true | .prop _ _ _ => true | _ => false) := by
  have hex : (key == "__new__" || key == "__repr__" || key == "__getattribute__") = true ↔
      key ∈ exemptNames := by
    simp only [exemptNames, List.mem_cons, List.not_mem_nil, or_false, Bool.or_eq_true, beq_iff_eq,
      or_assoc]
  -- once the name is known to be none of the first four, the rest is the same for either flag
  have tail : ∀ flag : Bool,
      (if (!flag) = true then false
        else if (key.startsWith "_" && !isDunderName key) = true then false
        else match m with | .func _ => true | .prop _ _ _ => true | _ => false) =
      (flag && isPublicOrDunder key &&
        match m with | .func _ => true | .prop _ _ _ => true | _ => false) := by
    intro flag
    unfold isPublicOrDunder
    cases flag <;> cases key.startsWith "_" <;> cases isDunderName key <;> rfl
  unfold wrapCandidate
  by_cases hx : key ∈ exemptNames
  · rw [if_pos hx, if_pos (hex.2 hx)]
  · rw [if_neg hx, if_neg (mt hex.1 hx)]
    by_cases hi : key = "__init__"
    · rw [if_pos hi, if_pos (beq_iff_eq.2 hi)]
      rfl
    · rw [if_neg hi, if_neg (mt beq_iff_eq.1 hi)]
      by_cases hs : key = "__setattr__"
      · rw [if_pos hs, bne, beq_iff_eq.2 hs, Bool.not_true, Bool.false_and, Bool.true_and,
          if_neg Bool.false_ne_true]
        exact tail last.setattr
      · rw [if_neg hs, bne, beq_eq_false_iff_ne.2 hs, Bool.not_false, Bool.false_and, Bool.true_and,
          if_neg Bool.false_ne_true]
        exact tail last.call

theorem wrapCandidate_of_ne {last : CheckOn} {key : String} {m : Member}
    (hn : key ≠ "__init__") (hs : key ≠ "__setattr__") :
    wrapCandidate last key m = (last.call && mustGuardOnCall key m) := by
  unfold mustGuardOnCall
  rw [wrapCandidate_eq, if_neg hn, if_neg hs, bne_iff_ne.2 hn, bne_iff_ne.2 hs]
  by_cases hx : key ∈ exemptNames
  · rw [if_pos hx, List.contains_iff_mem.2 hx]
    simp only [Bool.not_true, Bool.and_false, Bool.false_and]
  · rw [if_neg hx, Bool.eq_false_iff.2 (mt List.contains_iff_mem.1 hx)]
    simp only [Bool.not_false, Bool.and_true]
    rw [Bool.and_assoc, Bool.and_comm (isPublicOrDunder key)]
    rfl

theorem wrapCandidate_init (last : CheckOn) (m : Member) :
    wrapCandidate last "__init__" m = (match m with | .func _ => true | _ => false) := by
  rw [wrapCandidate_eq, if_neg (by simp [exemptNames]), if_pos rfl]

theorem wrapCandidate_setattr (last : CheckOn) (m : Member) :
    wrapCandidate last "__setattr__" m =
      (last.setattr && (match m with | .func _ => true | .prop _ _ _ => true | _ => false)) := by
  rw [wrapCandidate_eq, if_neg (by simp [exemptNames]), if_neg (by simp), if_pos rfl, isPublicOrDunder,
    dunder_setattr, Bool.or_true, Bool.and_true]

theorem mem_evaluatedOnce (invs : List CheckOn) (i : Nat) :
    (i ∈ evaluatedOnce invs .onCall ↔ ∃ c, invs[i]? = some c ∧ c.call = true) ∧
    (i ∈ evaluatedOnce invs .onSetattr ↔ ∃ c, invs[i]? = some c ∧ c.setattr = true) := by
  simp only [evaluatedOnce, List.mem_filter, List.mem_range]
  cases hg : invs[i]? with
  | none => simp
  | some c => simp [(List.getElem?_eq_some_iff.1 hg).1]

end Icontract.Inv
