/-
  The operations of the metaclass model (`Meta.lean`) on classes - the MRO, `getattr` of an invariant list along it,
  `_collapse_invariants`, `add_invariant_checks`, the class statement, the `invariant` decorator - each unfolded once:
  as an equation (`collapseInv_eq`, `defineClass_eq`, `addInvariant_eq`, `lookupInv_eq`), by what it contains
  (`computeMro_spec`; for a single base its value, `computeMro_single`) or by what it can change
  (`addInvariantChecks_cases`: `ns` and `wrapped` of the one class, through the fold `addInvariantChecks_ind`).  The
  later files speak of the results in words defined here: `withCls`, `col1` .. `col3`, `newCI`, `finishCls` (the phases
  of the class statement), `prepareInv`, `invRefs`, `refsAt`, `withRefs`, `Heap.app3` (the writes of the decorator).
  The views of `defineClass`: `defineClass_eq` is the definition phase by phase;
  `defineClass_plain` / `defineClass_ok` invert it for an accepted plain / contract-inheriting class
  (`defineClass_noinv`: an iff, when no base has invariant lists); `defineClass_shape` says for both kinds at once that
  the result is a frame, then the class appended, then perhaps `addInvariantChecks`, and carries `defineClass_frame` /
  `defineClass_hookCalls`, which say what a statement can change.  The operations on functions are in
  Lemmas/MetaFrame.lean.
-/
import IcontractModel.Lemmas.MetaFrame
import IcontractModel.Spec.DagHistoryInv
namespace Icontract.Meta

theorem mroOf_eq {w : World} {k : ClsId} {c : Cls} (hc : w.cls? k = some c) : mroOf w k = c.mro := by
  simp only [mroOf, hc, Option.map_some, Option.getD_some]

theorem pickHead_mem {all : List (List ClsId)} : ∀ {seqs : List (List ClsId)} {x : ClsId},
    pickHead seqs all = some x → ∃ s ∈ seqs, x ∈ s := by
  intro seqs
  induction seqs with
  | nil => intro x h; cases h
  | cons s rest ih =>
    intro x h
    cases s with
    | nil =>
      simp only [pickHead] at h
      obtain ⟨s', hs', hx⟩ := ih h
      exact ⟨s', List.mem_cons_of_mem _ hs', hx⟩
    | cons y ys =>
      simp only [pickHead] at h
      split at h
      · obtain ⟨s', hs', hx⟩ := ih h
        exact ⟨s', List.mem_cons_of_mem _ hs', hx⟩
      · cases h
        exact ⟨_, List.mem_cons_self, List.mem_cons_self⟩

/-- a round takes the chosen head `y` out of every sequence and puts it in front of the merge of what is left: the
result holds `y`, which stood in some sequence (`pickHead_mem`), and the members other than `y` (induction) -/
theorem mem_c3merge : ∀ {fuel : Nat} {seqs : List (List ClsId)} {r : List ClsId},
    c3merge fuel seqs = some r → ∀ x, x ∈ r ↔ ∃ s ∈ seqs, x ∈ s := by
  intro fuel
  induction fuel with
  | zero => intro seqs r h; cases h
  | succ fuel ih =>
    intro seqs r h x
    have hne : ∀ s ∈ seqs, x ∈ s → s ∈ seqs.filter (fun s => !s.isEmpty) := fun s hs hx =>
      List.mem_filter.mpr ⟨hs, by cases s with | nil => cases hx | cons _ _ => rfl⟩
    simp only [c3merge] at h
    split at h
    · next hemp =>
      cases h
      refine ⟨(nomatch ·), fun ⟨s, hs, hx⟩ => ?_⟩
      have := hne s hs hx
      rw [List.isEmpty_iff.mp hemp] at this
      cases this
    · split at h
      · cases h
      · next y hy =>
        split at h
        · next rest hrest =>
          cases h
          rw [List.mem_cons, ih hrest x]
          constructor
          · rintro (rfl | ⟨s, hs, hxs⟩)
            · obtain ⟨s, hs, hxs⟩ := pickHead_mem hy
              exact ⟨s, (List.mem_filter.mp hs).1, hxs⟩
            · obtain ⟨s0, hs0, rfl⟩ := List.mem_map.mp hs
              exact ⟨s0, (List.mem_filter.mp hs0).1, (List.mem_filter.mp hxs).1⟩
          · rintro ⟨s, hs, hxs⟩
            by_cases hxy : x = y
            · exact Or.inl hxy
            · exact Or.inr ⟨s.filter (· != y), List.mem_map.mpr ⟨s, hne s hs hxs, rfl⟩,
                List.mem_filter.mpr ⟨hxs, by simpa using hxy⟩⟩
        · cases h

theorem computeMro_spec {w : World} {k : ClsId} {bases mro : List ClsId} (h : computeMro w k bases = some mro) :
    ∃ rest, mro = k :: rest ∧ ∀ x, x ∈ rest ↔ x ∈ bases ∨ ∃ b ∈ bases, x ∈ mroOf w b := by
  simp only [computeMro] at h
  split at h
  · next rest hrest =>
    cases h
    refine ⟨rest, rfl, fun x => ?_⟩
    rw [mem_c3merge hrest x]
    constructor
    · rintro ⟨s, hs, hxs⟩
      rcases List.mem_append.mp hs with hs | hs
      · obtain ⟨b, hb, rfl⟩ := List.mem_map.mp hs
        cases hc : w.cls? b with
        | none =>
          simp only [hc, List.mem_singleton] at hxs
          exact Or.inl (hxs ▸ hb)
        | some c =>
          simp only [hc] at hxs
          exact Or.inr ⟨b, hb, by rw [mroOf_eq hc]; exact hxs⟩
      · exact Or.inl (List.mem_singleton.mp hs ▸ hxs)
    · rintro (hx | ⟨b, hb, hx⟩)
      · exact ⟨bases, List.mem_append_right _ (List.mem_singleton_self _), hx⟩
      · refine ⟨mroOf w b, List.mem_append_left _ (List.mem_map.mpr ⟨b, hb, ?_⟩), hx⟩
        cases hc : w.cls? b with
        | none => simp [mroOf, hc] at hx
        | some c => simp only [mroOf_eq hc]
  · cases h

theorem mem_computeMro {w : World} {k : ClsId} {bases mro : List ClsId} (h : computeMro w k bases = some mro)
    (hb : ∀ b ∈ bases, b ∈ mroOf w b) (a : ClsId) : a ∈ mro ↔ a = k ∨ ∃ b ∈ bases, a ∈ mroOf w b := by
  obtain ⟨rest, rfl, hmem⟩ := computeMro_spec h
  rw [List.mem_cons, hmem]
  exact or_congr_right ⟨fun h => h.elim (fun hab => ⟨a, hab, hb a hab⟩) id, Or.inr⟩

/-- merging one duplicate-free sequence (possibly among empty ones) gives it back: `s.length` rounds, each taking the
head out of every sequence, and one more that finds nothing left - the fuel of `computeMro`, the number of all
entries + 2, allows a round per entry -/
theorem c3merge_single : ∀ (s : List ClsId), s.Nodup → ∀ (fuel : Nat) (seqs : List (List ClsId)), s.length < fuel →
    seqs.filter (fun s => !s.isEmpty) = [s].filter (fun s => !s.isEmpty) → c3merge fuel seqs = some s := by
  intro s
  induction s with
  | nil =>
    intro _ fuel seqs hf hs
    cases fuel with
    | zero => cases hf
    | succ fuel => simp only [c3merge, hs, List.filter_cons, List.isEmpty_nil, Bool.not_true, Bool.false_eq_true,
        if_false, List.filter_nil, if_true]
  | cons x t ih =>
    intro hnd fuel seqs hf hs
    obtain ⟨hx, hndt⟩ := List.nodup_cons.mp hnd
    cases fuel with
    | zero => cases hf
    | succ fuel =>
      have hp : pickHead [x :: t] [x :: t] = some x := by
        simp [pickHead, inTail, hx]
      simp only [List.filter_cons, List.isEmpty_cons, Bool.not_false, if_true, List.filter_nil] at hs
      simp only [c3merge, hs, List.isEmpty_cons, Bool.false_eq_true, if_false, hp, List.map_cons, List.map_nil,
        List.filter_cons, bne_self_eq_false, List.filter_bne_eq_self_of_not_mem hx,
        ih hndt fuel [t] (Nat.lt_of_succ_lt_succ hf) rfl]

theorem computeMro_nil (w : World) (k : ClsId) : computeMro w k [] = some [k] := rfl

theorem computeMro_single {w : World} (k : ClsId) {b : ClsId} {c : Cls} {t : List ClsId} (hc : w.cls? b = some c)
    (hm : c.mro = b :: t) (hnd : c.mro.Nodup) : computeMro w k [b] = some (k :: c.mro) := by
  rw [hm] at hnd ⊢
  obtain ⟨hb, hndt⟩ := List.nodup_cons.mp hnd
  have hp : pickHead [b :: t, [b]] [b :: t, [b]] = some b := by
    simp [pickHead, inTail, hb]
  have step : ∀ fuel, t.length < fuel → c3merge (fuel + 1) [b :: t, [b]] = some (b :: t) := by
    intro fuel hf
    simp only [c3merge, List.filter_cons, List.isEmpty_cons, Bool.not_false, if_true, List.filter_nil,
      Bool.false_eq_true, if_false, hp, List.map_cons, List.map_nil, bne_self_eq_false,
      List.filter_bne_eq_self_of_not_mem hb,
      c3merge_single t hndt fuel [t, []] hf rfl]
  simp only [computeMro, List.map_cons, List.map_nil, hc, hm, List.cons_append, List.nil_append]
  rw [step _ (by exact Nat.lt_add_right 1 (Nat.lt_add_right 1 (Nat.lt_succ_self t.length)))]

theorem lookupMember_eq (w : World) (k : ClsId) (key : String) :
    lookupMember w k key =
      (mroOf w k).findSome? (fun a => (w.cls? a).bind (fun ca => (ca.ns.find? (·.1 == key)).map (·.2))) := by
  unfold lookupMember mroOf
  cases w.cls? k with
  | none => rfl
  | some c =>
    simp only [Option.map_some, Option.getD_some]
    congr
    funext a
    cases w.cls? a <;> rfl

theorem lookupMember_classes {w w' : World} (h : w'.classes = w.classes) (b : ClsId) (key : String) :
    lookupMember w' b key = lookupMember w b key := by
  simp only [lookupMember_eq, mroOf, World.cls?, h]

theorem computeMro_classes {w w' : World} (h : w'.classes = w.classes) (k : ClsId) (bases : List ClsId) :
    computeMro w' k bases = computeMro w k bases := by
  simp only [computeMro, World.cls?, h]

theorem lookupInv_eq (w : World) (k : ClsId) (d : InvDunder) :
    lookupInv w k d = (mroOf w k).findSome? (fun a => (w.cls? a).bind (·.invRef d)) := by
  unfold lookupInv mroOf
  cases w.cls? k with
  | none => rfl
  | some c =>
    simp only [Option.map_some, Option.getD_some]
    congr
    funext a
    cases w.cls? a <;> rfl

theorem lookupInv_congr {w w' : World} {k : ClsId} {d : InvDunder} (hm : mroOf w' k = mroOf w k)
    (hr : ∀ a ∈ mroOf w k, (w'.cls? a).bind (·.invRef d) = (w.cls? a).bind (·.invRef d)) :
    lookupInv w' k d = lookupInv w k d := by
  rw [lookupInv_eq, lookupInv_eq, hm]
  exact findSome?_congr hr

theorem lookupInv_none_iff (w : World) (k : ClsId) (d : InvDunder) :
    lookupInv w k d = none ↔ ∀ a ∈ mroOf w k, (w.cls? a).bind (·.invRef d) = none := by
  rw [lookupInv_eq, List.findSome?_eq_none_iff]

theorem lookupInv_own {w : World} {k : ClsId} {cls : Cls} (hc : w.cls? k = some cls)
    (hmro : cls.mro.head? = some k) (d : InvDunder) {r : Ref} (hr : cls.invRef d = some r) :
    lookupInv w k d = some r := by
  cases hm : cls.mro with
  | nil => rw [hm] at hmro; cases hmro
  | cons a tl =>
    rw [hm] at hmro
    simp only [List.head?_cons, Option.some.injEq] at hmro
    subst hmro
    simp only [lookupInv_eq, mroOf_eq hc, hm, List.findSome?_cons, hc, Option.bind_some, hr]

theorem invOf_none {w : World} {k : ClsId} {d : InvDunder} (h : lookupInv w k d = none) : invOf w k d = [] := by
  simp only [invOf, h]

theorem collapseInv_merged (w : World) (bases : List ClsId) (d : InvDunder) :
    bases.foldl (fun acc b => match lookupInv w b d with
      | some r => acc ++ w.heap.get r
      | none => acc) [] = bases.flatMap (fun b => invOf w b d) := by
  rw [List.flatMap_eq_foldl]
  congr
  funext acc b
  unfold invOf
  cases lookupInv w b d <;> simp

/-- the list is fresh exactly when some base shows the attribute: when none does, the merged list is empty anyway -/
theorem collapseInv_eq (w : World) (bases : List ClsId) (d : InvDunder) :
    collapseInv w bases d =
      if bases.any (fun b => (lookupInv w b d).isSome) then
        ({ w with heap := w.heap ++ [bases.flatMap (fun b => invOf w b d)] }, some w.heap.length)
      else (w, none) := by
  have h0 : collapseInv w bases d =
      if (bases.flatMap (fun b => invOf w b d)).isEmpty && !(bases.any (fun b => (lookupInv w b d).isSome)) then
        (w, none)
      else ({ w with heap := w.heap ++ [bases.flatMap (fun b => invOf w b d)] }, some w.heap.length) := by
    rw [← collapseInv_merged]
    rfl
  rw [h0]
  cases hany : bases.any (fun b => (lookupInv w b d).isSome) with
  | true => simp
  | false =>
    have : bases.flatMap (fun b => invOf w b d) = [] := by
      rw [List.flatMap_eq_nil_iff]
      intro b hb
      have := List.any_eq_false.mp hany b hb
      exact invOf_none (by simpa using this)
    simp [this]

theorem collapseInv_none (w : World) (bases : List ClsId) (d : InvDunder)
    (hall : ∀ b ∈ bases, lookupInv w b d = none) : collapseInv w bases d = (w, none) := by
  rw [collapseInv_eq, if_neg]
  rw [List.any_eq_true]
  rintro ⟨b, hb, hs⟩
  rw [hall b hb] at hs
  cases hs

theorem collapseInv_some (w : World) (bases : List ClsId) (d : InvDunder)
    (hsome : ∃ b ∈ bases, (lookupInv w b d).isSome = true) :
    collapseInv w bases d =
      ({ w with heap := w.heap ++ [bases.flatMap (fun b => invOf w b d)] }, some w.heap.length) := by
  rw [collapseInv_eq, if_pos (List.any_eq_true.mpr hsome)]

theorem collapseInv_frame (w : World) (bases : List ClsId) (d : InvDunder) :
    Frame (fun _ => False) w (collapseInv w bases d).1 ∧ (collapseInv w bases d).1.checkers = w.checkers := by
  rw [collapseInv_eq]
  split
  · exact ⟨⟨HPres.app, rfl, rfl, fun _ _ => rfl⟩, rfl⟩
  · exact ⟨Frame.refl, rfl⟩

theorem cls?_id {w : World} {k : ClsId} {c : Cls} (h : w.cls? k = some c) : c.id = k := by
  have := List.find?_some h
  simpa using this

theorem setCls_cls? (w : World) (c' : Cls) (j : ClsId) :
    (setCls w c').cls? j = (w.cls? j).map (fun x => if x.id == c'.id then c' else x) := by
  simp only [World.cls?, setCls, List.find?_map]
  congr
  funext x
  simp only [Function.comp]
  split
  · next h => rw [← beq_iff_eq.mp h]
  · rfl

theorem setCls_cls?_ne (w : World) {c' : Cls} (j : ClsId) (hj : j ≠ c'.id) : (setCls w c').cls? j = w.cls? j := by
  rw [setCls_cls?]
  cases h : w.cls? j with
  | none => rfl
  | some c =>
    have : ¬ c.id = c'.id := by rw [cls?_id h]; exact hj
    simp [this]

theorem setCls_cls?_self {w : World} {k : ClsId} {c c' : Cls} (h : w.cls? k = some c) (hid : c'.id = k) :
    (setCls w c').cls? k = some c' := by
  rw [setCls_cls?, h]
  simp [cls?_id h, hid]

theorem mem_setCls {w : World} {c' : Cls} {c : Cls} (hc : c ∈ w.classes) (hne : c.id ≠ c'.id) :
    c ∈ (setCls w c').classes := by
  simp only [setCls, List.mem_map]
  refine ⟨c, hc, ?_⟩
  simp [beq_false_of_ne hne]

theorem addInvariantChecks_ind {P : Cls → Prop} (hP : ∀ b ns wr, P b → P { b with ns := ns, wrapped := wr })
    {w : World} {k : ClsId} {c : Cls} (hc : w.cls? k = some c) (h0 : P c) :
    ∃ c', addInvariantChecks w k = setCls w c' ∧ P c' := by
  unfold addInvariantChecks
  rw [hc]
  extract_lets allOn lastOn
  refine ⟨_, rfl, ?_⟩
  refine List.foldlRecOn _ _ h0 (fun b hb key _ => ?_)
  cases lookupOwner (setCls w b) k key with
  | none => exact hb
  | some p =>
    obtain ⟨owner, m⟩ := p
    exact iteInduction (fun _ => hb) fun _ => iteInduction (fun _ => hb) fun _ =>
      iteInduction (fun _ => hP _ _ _ hb) fun _ => hP _ _ _ hb

theorem addInvariantChecks_cases (w : World) (k : ClsId) :
    addInvariantChecks w k = w ∨
      ∃ c ns wr, w.cls? k = some c ∧ addInvariantChecks w k = setCls w { c with ns := ns, wrapped := wr } := by
  cases hc : w.cls? k with
  | none => left; simp only [addInvariantChecks, hc]
  | some c =>
    obtain ⟨c', e, ns, wr, rfl⟩ := addInvariantChecks_ind
      (P := fun c' => ∃ ns wr, c' = { c with ns := ns, wrapped := wr })
      (fun _ ns wr ⟨_, _, e⟩ => ⟨ns, wr, by rw [e]⟩) hc ⟨c.ns, c.wrapped, rfl⟩
    exact Or.inr ⟨c, ns, wr, rfl, e⟩

theorem addInvariantChecks_heap (w : World) (k : ClsId) : (addInvariantChecks w k).heap = w.heap := by
  rcases addInvariantChecks_cases w k with h | ⟨_, _, _, _, h⟩ <;> rw [h]; rfl

theorem addInvariantChecks_checkers (w : World) (k : ClsId) :
    (addInvariantChecks w k).checkers = w.checkers := by
  rcases addInvariantChecks_cases w k with h | ⟨_, _, _, _, h⟩ <;> rw [h]; rfl

theorem addInvariantChecks_hookCalls (w : World) (k : ClsId) :
    (addInvariantChecks w k).hookCalls = w.hookCalls := by
  rcases addInvariantChecks_cases w k with h | ⟨_, _, _, _, h⟩ <;> rw [h]; rfl

theorem addInvariantChecks_keeps {w : World} {k : ClsId} {c : Cls} (hc : c ∈ w.classes)
    (hne : c.id ≠ k) : c ∈ (addInvariantChecks w k).classes := by
  rcases addInvariantChecks_cases w k with h | ⟨ck, _, _, hck, h⟩ <;> rw [h]
  · exact hc
  · exact mem_setCls hc (by rw [show ({ ck with ns := _, wrapped := _ } : Cls).id = k from cls?_id hck]; exact hne)

/-- the class table after class `c` was appended (and announced to the registration hook) -/
def withCls (w : World) (c : Cls) (hook : Bool := true) : World :=
  { w with classes := w.classes ++ [c], hookCalls := if hook then w.hookCalls ++ [c.id] else w.hookCalls }

theorem withCls_cls? (w : World) (c : Cls) (hook : Bool) (i : Nat) :
    (withCls w c hook).cls? i = (w.cls? i).or (if c.id = i then some c else none) := by
  simp only [World.cls?, withCls, List.find?_append, List.find?_cons, List.find?_nil]
  by_cases h : c.id = i
  · simp only [beq_iff_eq.mpr h, if_pos h]
  · simp only [beq_false_of_ne h, h, if_false]

/-- the three `_collapse_invariants` calls of `DBCMeta.__new__`, one after the other -/
def col1 (w : World) (bases : List ClsId) : World × Option Ref := collapseInv w bases .all
def col2 (w : World) (bases : List ClsId) : World × Option Ref := collapseInv (col1 w bases).1 bases .onCall
def col3 (w : World) (bases : List ClsId) : World × Option Ref := collapseInv (col2 w bases).1 bases .onSetattr

theorem col3_frame (w : World) (bases : List ClsId) :
    Frame (fun _ => False) w (col3 w bases).1 ∧ (col3 w bases).1.checkers = w.checkers :=
  ⟨((collapseInv_frame w bases .all).1.trans (collapseInv_frame _ bases .onCall).1).trans
    (collapseInv_frame _ bases .onSetattr).1,
   ((collapseInv_frame _ bases .onSetattr).2.trans (collapseInv_frame _ bases .onCall).2).trans
    (collapseInv_frame w bases .all).2⟩

theorem col3_none {w : World} {bases : List ClsId} (hnone : ∀ b ∈ bases, ∀ d, lookupInv w b d = none) :
    col1 w bases = (w, none) ∧ col2 w bases = (w, none) ∧ col3 w bases = (w, none) := by
  have e1 : col1 w bases = (w, none) := collapseInv_none w bases .all (fun b hb => hnone b hb _)
  have e2 : col2 w bases = (w, none) := by
    unfold col2
    rw [e1]
    exact collapseInv_none w bases .onCall (fun b hb => hnone b hb _)
  refine ⟨e1, e2, ?_⟩
  unfold col3
  rw [e2]
  exact collapseInv_none w bases .onSetattr (fun b hb => hnone b hb _)

theorem invOf_app {w : World} (l : List (List Nat)) {b : ClsId} {d : InvDunder}
    (hlt : ∀ r, lookupInv w b d = some r → r < w.heap.length) :
    invOf { w with heap := w.heap ++ l } b d = invOf w b d := by
  show (match lookupInv w b d with | some r => (w.heap ++ l).get r | none => []) = invOf w b d
  unfold invOf
  cases h : lookupInv w b d with
  | none => rfl
  | some r => exact Heap.get_app_lt _ (hlt r h)

theorem col3_some {w : World} {bases : List ClsId}
    (hlt : ∀ b ∈ bases, ∀ d r, lookupInv w b d = some r → r < w.heap.length)
    (hsome : ∃ b ∈ bases, ∀ d, (lookupInv w b d).isSome = true) :
    (col3 w bases).1 = { w with heap := w.heap ++ [bases.flatMap (fun b => invOf w b .all),
      bases.flatMap (fun b => invOf w b .onCall), bases.flatMap (fun b => invOf w b .onSetattr)] } ∧
    (col1 w bases).2 = some w.heap.length ∧ (col2 w bases).2 = some (w.heap.length + 1) ∧
    (col3 w bases).2 = some (w.heap.length + 2) := by
  obtain ⟨b0, hb0, hs0⟩ := hsome
  have step : ∀ (l : List (List Nat)) (d : InvDunder), collapseInv { w with heap := w.heap ++ l } bases d =
      ({ w with heap := w.heap ++ l ++ [bases.flatMap (fun b => invOf w b d)] },
        some (w.heap.length + l.length)) := by
    intro l d
    rw [collapseInv_some { w with heap := w.heap ++ l } bases d ⟨b0, hb0, hs0 d⟩]
    have : bases.flatMap (fun b => invOf { w with heap := w.heap ++ l } b d) =
        bases.flatMap (fun b => invOf w b d) := flatMap_congr (fun b hb => invOf_app l (hlt b hb d))
    simp only [this, List.length_append]
  have e1 := collapseInv_some w bases .all ⟨b0, hb0, hs0 _⟩
  have e2 := step [bases.flatMap (fun b => invOf w b .all)] .onCall
  have e3 := step [bases.flatMap (fun b => invOf w b .all), bases.flatMap (fun b => invOf w b .onCall)] .onSetattr
  simp only [col3, col2, col1, e1, e2, e3, List.append_assoc, List.cons_append, List.nil_append]
  simp

/-- the class object `type.__new__` creates (`CI`: with its three invariant references) -/
def newCI (k : ClsId) (bases : List ClsId) (ns : List (String × Member)) (mro : List ClsId)
    (i1 i2 i3 : Option Ref) : Cls :=
  { id := k, bases := bases, ns := ns, inv := i1, invCall := i2, invSetattr := i3,
    dbc := true, mro := mro, declared := ns.map (·.1) }

/-- `if hasattr(cls, "__invariants__"): add_invariant_checks(cls)` -/
def finishCls (w : World) (k : ClsId) : World :=
  if (lookupInv w k .all).isSome then addInvariantChecks w k else w

theorem finishCls_cases (w : World) (k : ClsId) : finishCls w k = w ∨ finishCls w k = addInvariantChecks w k := by
  unfold finishCls
  split
  · exact Or.inr rfl
  · exact Or.inl rfl

theorem finishCls_none {w : World} {k : ClsId} (h : lookupInv w k .all = none) : finishCls w k = w := by
  simp only [finishCls, h, Option.isSome_none, Bool.false_eq_true, if_false]

theorem defineClass_eq (w : World) (k : ClsId) (bases : List ClsId) (ns : List (String × Member))
    (dbc hook : Bool) :
    defineClass w k bases ns dbc hook =
      match dbc with
      | false =>
        (match computeMro w k bases with
         | none => .error .mroConflict
         | some mro => .ok { w with classes := w.classes ++
            [{ id := k, bases := bases, ns := ns, dbc := false, mro := mro, declared := ns.map (·.1) }] })
      | true =>
        (match ns.foldlM (fun w (p : String × Member) => decorateMember w bases p.1 p.2) (col3 w bases).1 with
         | .error e => .error e
         | .ok w2 =>
           match computeMro w2 k bases with
           | none => .error .mroConflict
           | some mro => .ok (finishCls (withCls w2
              (newCI k bases ns mro (col1 w bases).2 (col2 w bases).2 (col3 w bases).2) hook) k)) := by
  unfold defineClass
  cases dbc with
  | false => rfl
  | true =>
    simp only [Bool.not_true, Bool.false_eq_true, if_false, Bind.bind, Except.bind, col1, col2, col3]
    cases ns.foldlM (fun w (p : String × Member) => decorateMember w bases p.1 p.2)
        (collapseInv (collapseInv (collapseInv w bases .all).1 bases .onCall).1 bases .onSetattr).1 with
    | error e => rfl
    | ok v =>
      simp only []
      cases computeMro v k bases with
      | none => rfl
      | some mro => rfl

theorem defineClass_plain {w w' : World} {k : ClsId} {bases : List ClsId} {ns : List (String × Member)}
    {hook : Bool} (h : defineClass w k bases ns false hook = .ok w') :
    ∃ cnew : Cls, cnew.id = k ∧ w' = { w with classes := w.classes ++ [cnew] } := by
  rw [defineClass_eq] at h
  simp only [] at h
  split at h
  · cases h
  · exact ⟨_, rfl, (Except.ok.inj h).symm⟩

theorem defineClass_ok {w w' : World} {k : ClsId} {bases : List ClsId} {ns : List (String × Member)}
    {hook : Bool} (h : defineClass w k bases ns true hook = .ok w') :
    ∃ w2 mro,
      ns.foldlM (fun w (p : String × Member) => decorateMember w bases p.1 p.2) (col3 w bases).1 = .ok w2 ∧
      computeMro w2 k bases = some mro ∧
      w' = finishCls (withCls w2
        (newCI k bases ns mro (col1 w bases).2 (col2 w bases).2 (col3 w bases).2) hook) k := by
  rw [defineClass_eq] at h
  simp only [] at h
  split at h
  · cases h
  · next w2 h2 =>
    split at h
    · cases h
    · next mro hm => exact ⟨w2, mro, h2, hm, (Except.ok.inj h).symm⟩

theorem defineClass_noinv {w w' : World} {k : ClsId} {bases : List ClsId} {ns : List (String × Member)}
    {hook : Bool} (hinv : ∀ b ∈ bases, ∀ d, lookupInv w b d = none) :
    defineClass w k bases ns true hook = .ok w' ↔
      ∃ w2 mro, ns.foldlM (fun w (p : String × Member) => decorateMember w bases p.1 p.2) w = .ok w2 ∧
        computeMro w2 k bases = some mro ∧
        w' = finishCls (withCls w2 (newCI k bases ns mro none none none) hook) k := by
  obtain ⟨c1, c2, c3⟩ := col3_none hinv
  constructor
  · intro h
    obtain ⟨w2, mro, h2, hm, rfl⟩ := defineClass_ok h
    rw [c3] at h2
    exact ⟨w2, mro, h2, hm, by rw [c1, c2, c3]⟩
  · rintro ⟨w2, mro, h2, hm, rfl⟩
    rw [defineClass_eq]
    simp only [c1, c2, c3, h2, hm]

theorem defineClass_shape {w w' : World} {k : ClsId} {bases : List ClsId} {ns : List (String × Member)}
    {dbc hook : Bool} (h : defineClass w k bases ns dbc hook = .ok w') :
    ∃ (w2 : World) (cnew : Cls), Frame (fun f => ∃ p ∈ ns, p.2.mentions f) w w2 ∧ cnew.id = k ∧
      (w' = withCls w2 cnew (dbc && hook) ∨ w' = addInvariantChecks (withCls w2 cnew (dbc && hook)) k) := by
  cases dbc with
  | false =>
    obtain ⟨cnew, hid, rfl⟩ := defineClass_plain h
    exact ⟨w, cnew, Frame.refl, hid, Or.inl rfl⟩
  | true =>
    obtain ⟨w2, mro, h2, _, rfl⟩ := defineClass_ok h
    exact ⟨w2, _, ((col3_frame w bases).1.mono (fun _ hf => hf.elim)).trans (nsPass_frame h2), rfl,
      finishCls_cases _ k⟩

theorem defineClass_frame {w w' : World} {k : ClsId} {bases : List ClsId} {ns : List (String × Member)}
    {dbc hook : Bool} (h : defineClass w k bases ns dbc hook = .ok w') :
    HPres w.heap w'.heap ∧
    (∀ f, ¬ (∃ p ∈ ns, p.2.mentions f) → w'.checker? f = w.checker? f) ∧
    (w.cls? k = none → ∀ c ∈ w.classes, c ∈ w'.classes) := by
  obtain ⟨w2, cnew, fr, hid, e⟩ := defineClass_shape h
  have hmem : ∀ c ∈ w.classes, c ∈ (withCls w2 cnew (dbc && hook)).classes :=
    fun c hc => List.mem_append_left _ (fr.classes ▸ hc)
  rcases e with rfl | rfl
  · exact ⟨fr.heap, fr.checkers, fun _ => hmem⟩
  · refine ⟨by rw [addInvariantChecks_heap]; exact fr.heap, fun f hf => ?_,
      fun hk c hc => addInvariantChecks_keeps (hmem c hc) ?_⟩
    · exact (checker?_of_checkers (addInvariantChecks_checkers _ k) f).trans (fr.checkers f hf)
    · simpa using List.find?_eq_none.mp hk c hc

theorem defineClass_hookCalls {w w' : World} {k : ClsId} {bases : List ClsId} {ns : List (String × Member)}
    {dbc hook : Bool} (h : defineClass w k bases ns dbc hook = .ok w') :
    w'.hookCalls = if dbc && hook then w.hookCalls ++ [k] else w.hookCalls := by
  obtain ⟨w2, cnew, fr, hid, e⟩ := defineClass_shape h
  rcases e with rfl | rfl
  · simp only [withCls, fr.hooks, hid]
  · simp only [addInvariantChecks_hookCalls, withCls, fr.hooks, hid]

def Heap.cappend (b : Bool) (h : Heap) (r x : Nat) : Heap := if b then h.append r x else h

theorem Heap.length_cappend (b : Bool) (h : Heap) (r x : Nat) : (Heap.cappend b h r x).length = h.length := by
  cases b
  · rfl
  · exact Heap.length_append h r x

theorem Heap.get_cappend_ne {b : Bool} {h : Heap} {r r' x : Nat} (hne : r' ≠ r) :
    (Heap.cappend b h r x).get r' = h.get r' := by
  cases b
  · rfl
  · exact Heap.get_append_ne hne

theorem Heap.get_cappend_self {b : Bool} {h : Heap} {r x : Nat} (hr : r < h.length) :
    (Heap.cappend b h r x).get r = h.get r ++ (if b then [x] else []) := by
  cases b
  · simp [Heap.cappend]
  · exact Heap.get_append_self x hr

/-- the event an invariant is listed for -/
def CheckOn.applies (on : CheckOn) : InvDunder → Bool
  | .all => true
  | .onCall => on.call
  | .onSetattr => on.setattr

/-- the writes of `invariant.__call__` -/
def Heap.app3 (h : Heap) (r : InvDunder → Ref) (on : CheckOn) (c : Nat) : Heap :=
  Heap.cappend on.setattr (Heap.cappend on.call (h.append (r .all) c) (r .onCall) c) (r .onSetattr) c

theorem Heap.app3_length (h : Heap) (r : InvDunder → Ref) (on : CheckOn) (c : Nat) :
    (h.app3 r on c).length = h.length := by
  simp only [Heap.app3, Heap.length_cappend, Heap.length_append]

theorem Heap.app3_other {h : Heap} {r : InvDunder → Ref} {on : CheckOn} {c : Nat} {r' : Nat}
    (hne : ∀ d, r' ≠ r d) : (h.app3 r on c).get r' = h.get r' := by
  simp only [Heap.app3]
  rw [Heap.get_cappend_ne (hne _), Heap.get_cappend_ne (hne _),
    Heap.get_append_ne (hne _)]

theorem Heap.app3_self {h : Heap} {r : InvDunder → Ref} {on : CheckOn} {c : Nat}
    (hlt : ∀ d, r d < h.length) (hinj : ∀ d d', r d = r d' → d = d') (d : InvDunder) :
    (h.app3 r on c).get (r d) = h.get (r d) ++ (if on.applies d then [c] else []) := by
  have n1 : r .all ≠ r .onCall := fun e => by cases hinj _ _ e
  have n2 : r .all ≠ r .onSetattr := fun e => by cases hinj _ _ e
  have n3 : r .onCall ≠ r .onSetattr := fun e => by cases hinj _ _ e
  simp only [Heap.app3]
  cases d with
  | all =>
    rw [Heap.get_cappend_ne n2, Heap.get_cappend_ne n1,
      Heap.get_append_self _ (hlt _)]
    rfl
  | onCall =>
    rw [Heap.get_cappend_ne n3, Heap.get_cappend_self (by rw [Heap.length_append]; exact hlt _),
      Heap.get_append_ne n1.symm]
    rfl
  | onSetattr =>
    rw [Heap.get_cappend_self (by rw [Heap.length_cappend, Heap.length_append]; exact hlt _),
      Heap.get_cappend_ne n3.symm, Heap.get_append_ne n2.symm]
    rfl

/-- three consecutive cells, one per invariant list -/
def refsAt (L : Nat) : InvDunder → Nat
  | .all => L
  | .onCall => L + 1
  | .onSetattr => L + 2

theorem refsAt_inj {L : Nat} {d d' : InvDunder} (h : refsAt L d = refsAt L d') : d = d' := by
  cases d <;> cases d' <;> first | rfl | simp [refsAt] at h

theorem refsAt_bounds (L : Nat) (d : InvDunder) : L ≤ refsAt L d ∧ refsAt L d < L + 3 := by
  cases d
  · exact ⟨Nat.le_refl L, Nat.lt_add_of_pos_right (by decide)⟩
  · exact ⟨Nat.le_add_right L 1, Nat.add_lt_add_left (by decide) L⟩
  · exact ⟨Nat.le_add_right L 2, Nat.lt_succ_self (L + 2)⟩

theorem Heap.get_refsAt (h : Heap) (cell : InvDunder → List Nat) (d : InvDunder) :
    (h ++ [cell .all, cell .onCall, cell .onSetattr]).get (refsAt h.length d) = cell d := by
  obtain ⟨g0, g1, g2⟩ := Heap.get_three h (cell .all) (cell .onCall) (cell .onSetattr)
  cases d
  · exact g0
  · exact g1
  · exact g2

def withRefs (cls : Cls) (L : Nat) : Cls :=
  { cls with inv := some L, invCall := some (L + 1), invSetattr := some (L + 2) }

theorem withRefs_invRef (cls : Cls) (L : Nat) (d : InvDunder) : (withRefs cls L).invRef d = some (refsAt L d) := by
  cases d <;> rfl

/-- the world in which `invariant.__call__` appends: with three new lists when `__invariants__` is not reachable -/
def prepareInv (w : World) (k : ClsId) (cls : Cls) : World :=
  match lookupInv w k .all with
  | none => setCls { w with heap := w.heap ++ [[], [], []] } (withRefs cls w.heap.length)
  | some _ => w

/-- ... and the lists it appends to: the new ones, or whatever `getattr` finds -/
def invRefs (w : World) (k : ClsId) (d : InvDunder) : Ref :=
  match lookupInv w k .all with
  | none => refsAt w.heap.length d
  | some _ => (lookupInv w k d).getD 0

theorem prepareInv_none {w : World} {k : ClsId} (cls : Cls) (h : lookupInv w k .all = none) :
    prepareInv w k cls = setCls { w with heap := w.heap ++ [[], [], []] } (withRefs cls w.heap.length) := by
  simp only [prepareInv, h]

theorem prepareInv_some {w : World} {k : ClsId} (cls : Cls) {r : Ref} (h : lookupInv w k .all = some r) :
    prepareInv w k cls = w := by
  simp only [prepareInv, h]

theorem invRefs_none {w : World} {k : ClsId} (h : lookupInv w k .all = none) :
    invRefs w k = refsAt w.heap.length := by
  funext d; simp only [invRefs, h]

theorem invRefs_some {w : World} {k : ClsId} {r : Ref} (h : lookupInv w k .all = some r) (d : InvDunder) :
    invRefs w k d = (lookupInv w k d).getD 0 := by
  simp only [invRefs, h]

theorem addInvariant_eq {w : World} {k : ClsId} (c : CId) (on : CheckOn) {cls : Cls} (hc : w.cls? k = some cls) :
    addInvariant w k c on =
      addInvariantChecks { prepareInv w k cls with
        heap := (prepareInv w k cls).heap.app3 (invRefs w k) on c,
        invCheckOn := w.invCheckOn ++ [(c, on)] } k := by
  cases hl : lookupInv w k .all with
  | none =>
    simp only [addInvariant, hc, hl, prepareInv, invRefs, Heap.app3, Heap.cappend, refsAt, Heap.alloc_snd,
      Heap.length_alloc, Heap.alloc3, setCls, withRefs]
    rfl
  | some r =>
    simp only [addInvariant, hc, hl, prepareInv, invRefs, Heap.app3, Heap.cappend, Option.getD_some]

theorem addInvariant_fields (w : World) (k : ClsId) (c : CId) (on : CheckOn) :
    (addInvariant w k c on).checkers = w.checkers ∧ (addInvariant w k c on).hookCalls = w.hookCalls := by
  cases hc : w.cls? k with
  | none => simp only [addInvariant, hc, and_self]
  | some cls =>
    rw [addInvariant_eq c on hc, addInvariantChecks_checkers, addInvariantChecks_hookCalls]
    unfold prepareInv
    split <;> exact ⟨rfl, rfl⟩

end Icontract.Meta
