/-
  The capture loops (`captureOldSync`, `captureOldAsync`): one round of each as an equation (`captureOld*_cons`);
  order, at-most-once, the value of `OLD`, proved for both from what one step does (`CapSpec.fail`, `CapSpec.step`).
-/
import IcontractModel.Spec.Trace
import IcontractModel.Lemmas.Leaves
namespace Icontract
open Res

theorem capturesOf_nil : capturesOf [] = [] := rfl

theorem capturesOf_cons_capture (s : SId) (sel : Kwargs) (t : Trace) :
    capturesOf (Event.capture s sel :: t) = s :: capturesOf t := rfl

theorem capturesOf_cons_await (s : SId) (t : Trace) :
    capturesOf (Event.awaitCapture s :: t) = capturesOf t := rfl

theorem mk_ok_bind {α β : Type} (t : Trace) (a : α) (f : α → Res β) :
    ((⟨t, .ok a⟩ : Res α) >>= f) = ⟨t ++ (f a).trace, (f a).out⟩ := rfl

/-- `r` is a run of a capture loop over `ss` with `acc` captured so far; `value` fixes the log as well: a run that
succeeds has called every capture. -/
structure CapSpec (isAsync : Bool) (o : Oracle) (acc : List (String × Id)) (ss : List Snapshot)
    (r : Res (List (String × Id))) : Prop where
  order : capturesOf r.trace <+: ss.map (·.id)
  value : ∀ old, r.out = .ok old → old = acc ++ expectedOld isAsync o ss ∧ capturesOf r.trace = ss.map (·.id)
  captureOnly : ∀ e ∈ r.trace, e.isCapture = true

section
variable {isAsync : Bool} {o : Oracle} {acc : List (String × Id)} {s : Snapshot} {ss : List Snapshot}
  {r : Res (List (String × Id))}

theorem CapSpec.nil : CapSpec isAsync o acc [] (pure acc) :=
  ⟨List.nil_prefix, fun _ h => ⟨(Except.ok.inj h).symm.trans (List.append_nil _).symm, rfl⟩,
    fun _ h => by cases h⟩

/-- what the capture of `s` logs when it is called: the call, then perhaps its await -/
def CapLog (s : Snapshot) (t : Trace) : Prop :=
  ∃ sel aw, t = .capture s.id sel :: aw ∧ ∀ e ∈ aw, e = .awaitCapture s.id

theorem CapLog.call {sel : Kwargs} : CapLog s [.capture s.id sel] :=
  ⟨sel, [], rfl, fun _ h => by cases h⟩

theorem CapLog.awaited {sel : Kwargs} : CapLog s [.capture s.id sel, .awaitCapture s.id] :=
  ⟨sel, [_], rfl, fun _ h => List.mem_singleton.mp h⟩

theorem CapLog.captures {t : Trace} (h : CapLog s t) : capturesOf t = [s.id] := by
  obtain ⟨sel, aw, rfl, haw⟩ := h
  exact congrArg (s.id :: ·) (List.filterMap_eq_nil_iff.mpr fun e he => by cases haw e he; rfl)

theorem CapLog.captureOnly {t : Trace} (h : CapLog s t) : ∀ e ∈ t, e.isCapture = true := by
  obtain ⟨sel, aw, rfl, haw⟩ := h
  intro e he
  rcases List.mem_cons.mp he with rfl | he
  · rfl
  · cases haw e he; rfl

/-- a round that ends the loop with an error, before the capture is called (`r.trace = []`) or in the call -/
theorem CapSpec.fail {e : Raised} (ht : r.trace = [] ∨ CapLog s r.trace)
    (he : r.out = .error e) : CapSpec isAsync o acc (s :: ss) r := by
  refine ⟨?_, fun old h => (by rw [he] at h; cases h), ?_⟩
  · rcases ht with ht | ht
    · rw [ht]; exact List.nil_prefix
    · rw [ht.captures]; exact ⟨ss.map (·.id), rfl⟩
  · rcases ht with ht | ht
    · rw [ht]; intro _ h; cases h
    · exact ht.captureOnly

/-- a round that captures `v`, logging `t`, and goes on as `rest`, the run over `ss` with `v` stored -/
theorem CapSpec.step {v : Id} {rest : Res (List (String × Id))} {t : Trace}
    (hv : captureValue isAsync s (o.capture s.id) = some v) (hl : CapLog s t)
    (ht : r.trace = t ++ rest.trace) (ho : r.out = rest.out)
    (ih : CapSpec isAsync o (acc ++ [(s.name, v)]) ss rest) : CapSpec isAsync o acc (s :: ss) r := by
  have hc : capturesOf r.trace = s.id :: capturesOf rest.trace := by
    rw [ht, show capturesOf (t ++ _) = capturesOf t ++ capturesOf _ from List.filterMap_append, hl.captures]
    rfl
  refine ⟨?_, fun old hold => ?_, ?_⟩
  · rw [hc]
    exact (List.prefix_cons_inj _).mpr ih.order
  · obtain ⟨h1, h2⟩ := ih.value old (ho ▸ hold)
    refine ⟨?_, hc.trans (congrArg (s.id :: ·) h2)⟩
    rw [h1, List.append_assoc]
    simp [expectedOld, hv]
  · rw [ht]
    exact fun e he => (List.mem_append.mp he).elim (hl.captureOnly e) (ih.captureOnly e)

end

/-- one round of the sync loop: the capture is called and `k`, what follows, decided by its answer -/
theorem captureOldSync_cons (o : Oracle) (kw : Kwargs) (acc : List (String × Id)) (s : Snapshot) (ss : List Snapshot) :
    captureOldSync o kw acc (s :: ss) =
      if s.coroFn then Res.raise (.valueErr (.coroFnCaptureOnSync s.id) none)
      else selectCaptureKwargs s kw >>= fun sel =>
        let k := match o.capture s.id with
          | .raises e => Res.raise (.user e)
          | .coro _ => Res.raise (.valueErr (.coroCaptureOnSync s.id) none)
          | .val v _ => captureOldSync o kw (acc ++ [(s.name, v)]) ss
        ⟨.capture s.id sel :: k.trace, k.out⟩ := by
  rw [captureOldSync]
  cases s.coroFn with
  | true => rfl
  | false => exact bind_congr' fun sel => emit_bind.trans (by cases o.capture s.id <;> rfl)

/-- one round of the async loop: `a` is the answer, awaited (`aw`) unless the capture is a coroutine function -/
theorem captureOldAsync_cons (o : Oracle) (kw : Kwargs) (acc : List (String × Id)) (s : Snapshot)
    (ss : List Snapshot) :
    captureOldAsync o kw acc (s :: ss) =
      selectCaptureKwargs s kw >>= fun sel =>
        let aw := if !s.coroFn && (o.capture s.id).isCoro then [Event.awaitCapture s.id] else []
        let k := match (if s.coroFn then o.capture s.id else (o.capture s.id).awaited) with
          | .raises e => Res.raise (.user e)
          | .coro _ => captureOldAsync o kw (acc ++ [(s.name, 0)]) ss
          | .val v _ => captureOldAsync o kw (acc ++ [(s.name, v)]) ss
        ⟨.capture s.id sel :: (aw ++ k.trace), k.out⟩ := by
  rw [captureOldAsync]
  refine bind_congr' fun sel => emit_bind.trans ?_
  cases s.coroFn with
  | true => cases o.capture s.id <;> rfl
  | false =>
    cases o.capture s.id with
    | coro a => cases a <;> rfl
    | val v t => rfl
    | raises e => rfl

theorem captureOldSync_spec (o : Oracle) (kw : Kwargs) (acc : List (String × Id)) (ss : List Snapshot) :
    CapSpec false o acc ss (captureOldSync o kw acc ss) := by
  induction ss generalizing acc with
  | nil => exact .nil
  | cons s ss ih =>
    rw [captureOldSync_cons, selectCaptureKwargs_eq]
    cases hc : s.coroFn with
    | true => exact .fail (.inl rfl) rfl
    | false =>
      cases (missingNames s.args kw).isEmpty with
      | false => exact .fail (.inl rfl) rfl
      | true =>
        cases ha : o.capture s.id with
        | raises e => exact .fail (.inr .call) rfl
        | coro a => exact .fail (.inr .call) rfl
        | val v t => exact .step (by unfold captureValue; rw [ha, hc]; rfl) .call rfl rfl (ih _)

theorem captureOldAsync_spec (o : Oracle) (kw : Kwargs) (acc : List (String × Id)) (ss : List Snapshot) :
    CapSpec true o acc ss (captureOldAsync o kw acc ss) := by
  induction ss generalizing acc with
  | nil => exact .nil
  | cons s ss ih =>
    rw [captureOldAsync_cons, selectCaptureKwargs_eq]
    cases (missingNames s.args kw).isEmpty with
    | false => exact .fail (.inl rfl) rfl
    | true =>
      cases hc : s.coroFn with
      | true =>
        cases ha : o.capture s.id with
        | raises e => exact .fail (.inr .call) rfl
        | coro a => exact .step (v := 0) (by unfold captureValue; rw [ha, hc]; rfl) .call rfl rfl (ih _)
        | val v t => exact .step (by unfold captureValue; rw [ha, hc]; rfl) .call rfl rfl (ih _)
      | false =>
        cases ha : o.capture s.id with
        | raises e => exact .fail (.inr .call) rfl
        | val v t => exact .step (by unfold captureValue; rw [ha, hc]; rfl) .call rfl rfl (ih _)
        | coro a =>
          cases a with
          | raises e => exact .fail (.inr .awaited) rfl
          | val v t => exact .step (by unfold captureValue; rw [ha, hc]; rfl) .awaited rfl rfl (ih _)
          | coro b => exact .step (v := 0) (by unfold captureValue; rw [ha, hc]; rfl) .awaited rfl rfl (ih _)

end Icontract
