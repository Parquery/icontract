/-
  The frame semantics `runSpec` (Spec/Frames.lean): one statement of what an evaluation does to the
  state (`runSpec_quiet`: the stack is restored, the trace only grows, and while the instances in `P`
  are suspended no invariant of theirs is evaluated, unless the command itself is the evaluation of
  such invariants), and what call-free invariants do (C03(b)).
-/
import IcontractModel.Lemmas.Reentry
namespace Icontract.Re

theorem SSt.emit_stack (st : SSt) (e : Ev) : (st.emit e).stack = st.stack := rfl
theorem SSt.emit_tr (st : SSt) (e : Ev) : (st.emit e).tr = st.tr ++ [e] := rfl
theorem SSt.push_stack (st : SSt) (k ph) : (st.push k ph).stack = ⟨k, ph⟩ :: st.stack := rfl
theorem SSt.push_tr (st : SSt) (k ph) : (st.push k ph).tr = st.tr := rfl

theorem SSt.fnSuspended_push (st : SSt) (k ph) (f : FnId) :
    (st.push k ph).fnSuspended f = ((k == .fn f && ph == .fnContract) || st.fnSuspended f) := rfl

theorem SSt.instSuspended_push (st : SSt) (k ph) (i : InstId) : (st.push k ph).instSuspended i =
    ((k == .inst i && (ph == .ctor || ph == .method || ph == .invEval)) || st.instSuspended i) := rfl

theorem framed_tr (k : Key) (ph : Phase) (st : SSt) (f : SSt → SSt × Out) :
    (framed k ph st f).1.tr = (f (st.push k ph)).1.tr := rfl

theorem framed_out (k : Key) (ph : Phase) (st : SSt) (f : SSt → SSt × Out) :
    (framed k ph st f).2 = (f (st.push k ph)).2 := rfl

theorem framed_stack {k ph} {st : SSt} {f : SSt → SSt × Out}
    (h : (f (st.push k ph)).1.stack = (st.push k ph).stack) : (framed k ph st f).1.stack = st.stack :=
  congrArg (List.drop 1) h

/-- `s'` has the stack of `s` and extends its trace, by no invariant event of an instance in `P` -/
def Quiet (P : InstId → Prop) (s s' : SSt) : Prop :=
  s'.stack = s.stack ∧ ∃ t, s'.tr = s.tr ++ t ∧ ∀ i k, P i → Ev.inv i k ∉ t

/-- the command is not the evaluation of invariants of an instance in `P` -/
def Cmd.Avoids (P : InstId → Prop) : Cmd → Prop
  | .invs i _ _ => ¬ P i
  | _ => True

/-- every instance in `P` is suspended -/
def Susp (P : InstId → Prop) (s : SSt) : Prop := ∀ i, P i → s.instSuspended i = true

theorem IsConds.avoids {P : InstId → Prop} {mk ev viol} (h : IsConds mk ev viol) {k cs}
    (ha : (mk k cs).Avoids P) : (∀ k' i j, P i → ev k' ≠ .inv i j) ∧ ∀ k' cs', (mk k' cs').Avoids P := by
  cases h with
  | pres f => exact ⟨nofun, fun _ _ => trivial⟩
  | posts f => exact ⟨nofun, fun _ _ => trivial⟩
  | invs i => exact ⟨fun _ _ _ hP e => by cases e; exact ha hP, fun _ _ => ha⟩

section
variable {P : InstId → Prop}

theorem Quiet.refl {s : SSt} : Quiet P s s := ⟨rfl, [], (List.append_nil _).symm, fun _ _ _ h => nomatch h⟩

theorem Quiet.trans {a b c : SSt} (h1 : Quiet P a b) (h2 : Quiet P b c) : Quiet P a c := by
  obtain ⟨hs1, t1, ht1, hn1⟩ := h1
  obtain ⟨hs2, t2, ht2, hn2⟩ := h2
  refine ⟨hs2.trans hs1, t1 ++ t2, by rw [ht2, ht1, List.append_assoc], fun i k hP hk => ?_⟩
  rcases List.mem_append.1 hk with hk | hk
  · exact hn1 i k hP hk
  · exact hn2 i k hP hk

theorem Quiet.emit {s : SSt} {e : Ev} (he : ∀ i k, P i → e ≠ .inv i k) : Quiet P s (s.emit e) :=
  ⟨rfl, [e], rfl, fun i k hP hk => he i k hP (List.mem_singleton.1 hk).symm⟩

theorem Quiet.framed {k : Key} {ph : Phase} {s : SSt} {f : SSt → SSt × Out}
    (h : Quiet P (s.push k ph) (f (s.push k ph)).1) : Quiet P s (framed k ph s f).1 :=
  ⟨framed_stack h.1, h.2⟩

theorem Quiet.andThen {s : SSt} {r : SSt × Out} {k : SSt → SSt × Out} (h1 : Quiet P s r.1)
    (h2 : ∀ s', Quiet P s s' → Quiet P s' (k s').1) : Quiet P s (andThen r k).1 :=
  andThen_fst (Q := Quiet P s) h1 fun s' h' => h'.trans (h2 s' h')

theorem Susp.push {s : SSt} (h : Susp P s) (k : Key) (ph : Phase) : Susp P (s.push k ph) := by
  intro i hi
  rw [SSt.instSuspended_push, h i hi, Bool.or_true]

theorem Quiet.susp {s s' : SSt} (h : Quiet P s s') (hs : Susp P s) : Susp P s' := by
  intro i hi
  unfold SSt.instSuspended
  rw [h.1]
  exact hs i hi

end

theorem runSpec_quiet {p : Program} (P : InstId → Prop) {n : Nat} {st : SSt} {cmd : Cmd}
    (hs : Susp P st) (hcmd : cmd.Avoids P) : Quiet P st (runSpec p n st cmd).1 := by
  induction n generalizing st cmd with
  | zero => exact Quiet.refl
  | succ n ih =>
    -- a framed evaluation, from any state `s` that `st` has led to
    have hfr : ∀ {k : Key} {ph : Phase} {s : SSt} {cmd' : Cmd}, Quiet P st s → cmd'.Avoids P →
        Quiet P s (framed k ph s (fun st => runSpec p n st cmd')).1 :=
      fun h hc' => Quiet.framed (ih ((h.susp hs).push _ _) hc')
    have hfre : ∀ {k : Key} {ph : Phase} {s : SSt} {e : Ev} {c : Script}, Quiet P st s →
        (∀ i k, P i → e ≠ .inv i k) →
        Quiet P s (framed k ph s (fun st => runSpec p n (st.emit e) (.script c))).1 :=
      fun h he => Quiet.framed ((Quiet.emit he).trans (ih ((h.susp hs).push _ _) trivial))
    cases cmd using Cmd.conds_cases with
    | script s => rw [runSpec_script]; exact ih hs trivial
    | acts as =>
      cases as with
      | nil => exact Quiet.refl
      | cons a rest =>
        rw [runSpec_acts_cons]
        exact Quiet.andThen (ih hs trivial) fun st' h' => ih (h'.susp hs) trivial
    | conds h k cs =>
      cases cs with
      | nil => rw [h.runSpec_nil]; exact Quiet.refl
      | cons c cs =>
        rw [h.runSpec_cons]
        refine Quiet.andThen ((Quiet.emit ((h.avoids hcmd).1 k)).trans (ih hs trivial)) fun st' h' => ?_
        split
        · exact ih (h'.susp hs) ((h.avoids hcmd).2 _ _)
        · exact Quiet.refl
    | act a =>
      cases a with
      | callFn f =>
        cases h : p.fn? f with
        | none => rw [runSpec_callFn_none h]; exact Quiet.refl
        | some d =>
          cases hc : st.fnSuspended f with
          | true =>
            rw [runSpec_callFn_bare h hc]
            exact hfre Quiet.refl nofun
          | false =>
            rw [runSpec_callFn_checked h hc]
            refine Quiet.andThen (hfr Quiet.refl trivial) fun st1 h1 => ?_
            refine Quiet.andThen (hfre h1 nofun) fun st2 h2 => ?_
            exact hfr (h1.trans h2) trivial
      | callMethod i m =>
        rcases p.meth?_cases i m with h | ⟨c, md, h⟩
        · rw [runSpec_callMethod_none h]; exact Quiet.refl
        · cases hc : (!md.guarded || st.instSuspended i) with
          | true =>
            rw [runSpec_callMethod_bare h hc]
            exact (Quiet.emit nofun).trans (ih hs trivial)
          | false =>
            -- the call is checked, so the instance is not suspended, hence not in `P`
            have hi : ¬ P i := by
              intro hP
              rw [hs i hP, Bool.or_true] at hc
              cases hc
            rw [runSpec_callMethod_checked h hc]
            refine Quiet.andThen (hfr Quiet.refl hi) fun st1 h1 => ?_
            refine Quiet.andThen (hfre h1 nofun) fun st2 h2 => ?_
            exact hfr (h1.trans h2) hi
      | construct i => rw [runSpec_construct]; exact ih hs trivial
      | superInit i cid =>
        cases h : p.cls? cid with
        | none => rw [runSpec_superInit_none h]; exact Quiet.refl
        | some c =>
          cases hc : st.instSuspended i with
          | true =>
            rw [runSpec_superInit_bare h hc]
            exact (Quiet.emit nofun).trans (ih hs trivial)
          | false =>
            rw [runSpec_superInit_checked h hc]
            refine Quiet.andThen (hfre Quiet.refl nofun) fun st1 h1 => ?_
            refine hfr h1 fun hP => ?_
            rw [hs i hP] at hc
            cases hc

theorem runSpec_stack {p : Program} {fuel st cmd} : (runSpec p fuel st cmd).1.stack = st.stack :=
  (runSpec_quiet (fun _ => False) nofun (by
    cases cmd with
    | invs => exact id
    | _ => trivial)).1

theorem runSpec_stack_eq {p : Program} {fuel st cmd st' o} (h : runSpec p fuel st cmd = (st', o)) :
    st'.stack = st.stack := by
  have := runSpec_stack (p := p) (fuel := fuel) (st := st) (cmd := cmd)
  rw [h] at this; exact this

/-- the invariant events of instance `i` in a trace, in order -/
def invEventsOf (i : InstId) (t : List Ev) : List Ev :=
  t.filter (fun e => match e with | .inv j _ => j == i | _ => false)

theorem Quiet.invEventsOf_eq {i : InstId} {s s' : SSt} (h : Quiet (· = i) s s') :
    invEventsOf i s'.tr = invEventsOf i s.tr := by
  obtain ⟨_, t, ht, hn⟩ := h
  have hnil : invEventsOf i t = [] := by
    rw [invEventsOf, List.filter_eq_nil_iff]
    intro e he
    cases e with
    | inv j k =>
      intro hj
      obtain rfl : j = i := beq_iff_eq.1 hj
      exact hn j k rfl he
    | _ => exact Bool.false_ne_true
  rw [ht, invEventsOf, List.filter_append, ← invEventsOf, ← invEventsOf, hnil, List.append_nil]

theorem SSt.instSuspended_of_underConstruction {s : SSt} {i : InstId} (h : s.underConstruction i = true) :
    s.instSuspended i = true := by
  unfold SSt.underConstruction at h
  unfold SSt.instSuspended
  rw [List.any_eq_true] at h ⊢
  obtain ⟨fr, hfr, hp⟩ := h
  rw [Bool.and_eq_true] at hp
  exact ⟨fr, hfr, by rw [hp.1, hp.2]; rfl⟩

-- a call-free script takes two levels: from `.script c` to `.acts []`, and from there to the answer
theorem runSpec_script_plain {p : Program} {n : Nat} {st : SSt} {c : Script} (hc : c.actions = []) :
    runSpec p (n + 2) st (.script c) = (st, .ok) := by
  rw [runSpec_script, hc, runSpec_acts_nil]

theorem runSpec_invs_plain_ok {p : Program} {i : InstId} {fuel : Nat} {st : SSt} {k : Nat} {cs : List Script}
    (hpl : ∀ s ∈ cs, s.actions = []) (hok : (runSpec p fuel st (.invs i k cs)).2 = .ok) :
    (runSpec p fuel st (.invs i k cs)).1.tr = st.tr ++ (List.range' k cs.length).map (Ev.inv i) := by
  induction cs generalizing fuel st k with
  | nil =>
    cases fuel with
    | zero => cases hok
    | succ n => exact (List.append_nil _).symm
  | cons c cs ih =>
    cases fuel with
    | zero => cases hok
    | succ n =>
      rw [runSpec_invs_cons] at hok ⊢
      rcases n with _ | _ | m
      · cases hok
      · cases hok
      rw [runSpec_script_plain (hpl c List.mem_cons_self), andThen_mk_ok] at hok ⊢
      cases ht : c.truthy with
      | false => rw [ht, if_neg Bool.false_ne_true] at hok; cases hok
      | true =>
        rw [ht, if_pos rfl] at hok
        rw [if_pos rfl, ih (fun s hs => hpl s (List.mem_cons_of_mem _ hs)) hok, SSt.emit, List.length_cons,
          List.range'_succ, List.map_cons, List.append_assoc]
        rfl

theorem runSpec_invs_plain_viol (p : Program) (i : InstId) (fuel : Nat) (st : SSt) (k : Nat) {cs : List Script}
    {k' : Nat} {s : Script} (hpl : ∀ s ∈ cs, s.actions = []) (hk : cs[k']? = some s) (hfalse : s.truthy = false)
    (hfirst : ∀ j s', j < k' → cs[j]? = some s' → s'.truthy = true) (hfuel : k' + 3 ≤ fuel) :
    (runSpec p fuel st (.invs i k cs)).2 = .violInv i (k + k') ∧
    (runSpec p fuel st (.invs i k cs)).1.tr = st.tr ++ (List.range' k (k' + 1)).map (Ev.inv i) := by
  induction cs generalizing k' fuel st k with
  | nil => cases hk
  | cons c cs ih =>
    -- one level for each invariant up to the falsy one, and two below the last for its script
    obtain ⟨m, rfl⟩ := Nat.exists_eq_add_of_le' (Nat.le_trans (Nat.le_add_left 3 k') hfuel)
    rw [runSpec_invs_cons, runSpec_script_plain (hpl c List.mem_cons_self), andThen_mk_ok]
    cases k' with
    | zero =>
      obtain rfl : c = s := Option.some.inj hk
      rw [hfalse, if_neg Bool.false_ne_true]
      exact ⟨rfl, rfl⟩
    | succ k'' =>
      rw [hfirst 0 c (Nat.zero_lt_succ _) rfl, if_pos rfl]
      obtain ⟨h1, h2⟩ := ih (m + 2) (st.emit (.inv i k)) (k + 1)
        (fun s hs => hpl s (List.mem_cons_of_mem _ hs)) hk
        (fun j s' hj hs' => hfirst (j + 1) s' (Nat.succ_lt_succ hj) hs') (Nat.le_of_succ_le_succ hfuel)
      refine ⟨by rw [h1, Nat.add_assoc, Nat.add_comm 1], ?_⟩
      rw [h2, SSt.emit, List.range'_succ, List.map_cons, List.append_assoc]
      rfl

end Icontract.Re
