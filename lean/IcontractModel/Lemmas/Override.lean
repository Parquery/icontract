/-
  The reference semantics `specPreAt` / `specListAt` of Spec/Override.lean: one level unfolded (`*_succ`, over
  `parentsAt` and `preStep`), and that the semantics of class `k` only reads the classes `≤ k` (`*_agree`, in a class
  table where bases and MROs only mention earlier classes, `ClsClosed`) - so that defining a further class changes
  nothing for the earlier ones, and the semantics of the new class is one `preStep` over that of its providers in the
  old table (`Extends.specPreAt_new`, `Extends.specListAt_new`).  Rests on the specification and list facts only;
  `ownGroups` names the `ownG` of `specPreAt`, which is all the heap side (Lemmas/Shows.lean) takes from here.
-/
import IcontractModel.Spec.Override
import IcontractModel.Lemmas.ListLemmas
namespace Icontract.Meta

/-- the groups a function's own `@require`s form: one group, or none at all -/
def ownGroups (pre : List Nat) : List (List Nat) := if pre.isEmpty then [] else [pre]

theorem ownGroups_of_ne_nil {pre : List Nat} (h : pre ≠ []) : ownGroups pre = [pre] := by
  cases pre with
  | nil => exact absurd rfl h
  | cons _ _ => rfl

/-- the class that provides `key` to base `b`, when what it provides is a function -/
def parentOf (w : World) (key : String) (which : Nat) (b : ClsId) : Option ClsId :=
  match provider w b key with
  | some p => if ((ownMember w p key).bind (fun m => memberFn m which)).isSome then some p else none
  | none => none

def basesOf (w : World) (k : ClsId) : List ClsId := ((w.cls? k).map (·.bases)).getD []

/-- the classes whose contracts on `key` class `k` inherits: the providers of its bases - none for a constructor -/
def parentsAt (w : World) (k : ClsId) (key : String) (which : Nat) : List ClsId :=
  if key == "__init__" || key == "__new__" then [] else (basesOf w k).filterMap (parentOf w key which)

/-- how the effective preconditions of the providers combine with the own group -/
def preStep (own : List Nat) (ps : List PreSpec) : PreSpec :=
  if ps.isEmpty then (if own.isEmpty then none else some (ownGroups own))
  else if ps.any (·.isNone) then none
  else some ((ps.filterMap id).flatten ++ ownGroups own)

theorem specPreAt_succ (w : World) (D : Decls) (fuel : Nat) (k : ClsId) (key : String) (which : Nat) :
    specPreAt w D (fuel + 1) k key which =
      match (ownMember w k key).bind (fun m => memberFn m which) with
      | none => none
      | some f => preStep (D.ownPre f) ((parentsAt w k key which).map (fun p => specPreAt w D fuel p key which)) := by
  rw [specPreAt]
  cases (ownMember w k key).bind (fun m => memberFn m which) with
  | none => rfl
  | some f =>
    unfold parentsAt
    dsimp only
    by_cases hk : (key == "__init__" || key == "__new__") = true
    · rw [if_pos hk, if_pos hk]
      rfl
    · rw [if_neg hk, if_neg hk, preStep, List.isEmpty_map]
      rfl

theorem specListAt_succ (w : World) (own : FnId → List Nat) (fuel : Nat) (k : ClsId) (key : String)
    (which : Nat) :
    specListAt w own (fuel + 1) k key which =
      match (ownMember w k key).bind (fun m => memberFn m which) with
      | none => []
      | some f => ((parentsAt w k key which).map (fun p => specListAt w own fuel p key which)).flatten ++ own f := by
  rw [specListAt]
  cases (ownMember w k key).bind (fun m => memberFn m which) with
  | none => rfl
  | some f =>
    unfold parentsAt
    dsimp only
    by_cases hk : (key == "__init__" || key == "__new__") = true
    · rw [if_pos hk, if_pos hk]
      rfl
    · rw [if_neg hk, if_neg hk]
      rfl

theorem preStep_ne_some_nil (own : List Nat) {ps : List PreSpec} (h : ∀ p ∈ ps, p ≠ some []) :
    preStep own ps ≠ some [] := by
  unfold preStep ownGroups
  cases ps with
  | nil => cases own <;> simp
  | cons p ps =>
    simp only [List.isEmpty_cons, Bool.false_eq_true, if_false]
    by_cases hany : (p :: ps).any (·.isNone) = true
    · rw [if_pos hany]
      exact nofun
    · rw [if_neg hany]
      cases p with
      | none => exact absurd rfl hany
      | some x =>
        cases x with
        | nil => exact absurd rfl (h _ List.mem_cons_self)
        | cons a l => exact fun e => nomatch Option.some.inj e

theorem specPreAt_ne_some_nil (w : World) (D : Decls) (key : String) (which : Nat) :
    ∀ (fuel : Nat) (k : ClsId), specPreAt w D fuel k key which ≠ some [] := by
  intro fuel
  induction fuel with
  | zero => exact fun _ => nofun
  | succ fuel ih =>
    intro k
    rw [specPreAt_succ]
    split
    · exact nofun
    · apply preStep_ne_some_nil
      intro p hp
      obtain ⟨q, _, rfl⟩ := List.mem_map.mp hp
      exact ih q

theorem preStep_getD_map {ι : Type} {own : List Nat} {ps : List ι} {sp : ι → PreSpec}
    (h : ∀ p ∈ ps, sp p ≠ some []) :
    (preStep own (ps.map sp)).getD [] =
      if ps.any (fun p => ((sp p).getD []).isEmpty) then []
      else ps.flatMap (fun p => (sp p).getD []) ++ ownGroups own := by
  have hany : (ps.map sp).any (·.isNone) = ps.any (fun p => ((sp p).getD []).isEmpty) := by
    rw [List.any_map]
    refine any_congr (fun p hp => ?_)
    have := h p hp
    rw [Function.comp]
    cases hs : sp p with
    | none => rfl
    | some x => cases x with
      | nil => exact absurd hs this
      | cons _ _ => rfl
  unfold preStep
  cases ps with
  | nil => cases own <;> rfl
  | cons p ps =>
    rw [← hany, filterMap_id_flatten, List.map_map, ← List.flatMap_def]
    simp only [List.map_cons, List.isEmpty_cons, Bool.false_eq_true, if_false]
    split <;> rfl

/-- bases have smaller ids, MROs mention ids up to the class's own -/
def ClsClosed (w : World) : Prop :=
  ∀ k c, w.cls? k = some c → (∀ b ∈ c.bases, b < k) ∧ (∀ a ∈ c.mro, a ≤ k)

theorem cls?_of_classes {w w' : World} (h : w'.classes = w.classes) (i : ClsId) : w'.cls? i = w.cls? i := by
  rw [World.cls?, h]; rfl

theorem ownMember_agree {w w' : World} {k : ClsId} (h : w'.cls? k = w.cls? k) (key : String) :
    ownMember w' k key = ownMember w k key := by
  simp only [ownMember, h]

theorem ownMember_of_declared {w : World} {k : ClsId} {c : Cls} (hc : w.cls? k = some c)
    (hd : c.declared = c.ns.map (·.1)) (key : String) :
    ownMember w k key = (c.ns.find? (·.1 == key)).map (·.2) := by
  simp only [ownMember, hc, Option.bind_some]
  split
  · rfl
  · next hcont =>
    rw [List.find?_eq_none.mpr (fun q hq e => hcont ?_)]
    · rfl
    · rw [hd, List.contains_iff_mem]
      exact List.mem_map.mpr ⟨q, hq, beq_iff_eq.mp e⟩

theorem provider_mem {w : World} {b p : ClsId} {key : String} (h : provider w b key = some p) :
    ∃ c, w.cls? b = some c ∧ p ∈ c.mro ∧ (ownMember w p key).isSome = true := by
  unfold provider at h
  cases hc : w.cls? b with
  | none => simp [hc] at h
  | some c =>
    simp only [hc, Option.bind_some] at h
    exact ⟨c, rfl, List.mem_of_find?_eq_some h, List.find?_some (p := fun a => (ownMember w a key).isSome) h⟩

theorem provider_le {w : World} (hcl : ClsClosed w) {b p : ClsId} {key : String}
    (h : provider w b key = some p) : p ≤ b := by
  obtain ⟨c, hc, hp, _⟩ := provider_mem h
  exact (hcl b c hc).2 p hp

theorem provider_agree {w w' : World} {n : Nat} (hag : ∀ i, i ≤ n → w'.cls? i = w.cls? i)
    (hcl : ClsClosed w) {b : ClsId} (hb : b ≤ n) (key : String) :
    provider w' b key = provider w b key := by
  simp only [provider, hag b hb]
  cases hc : w.cls? b with
  | none => rfl
  | some c =>
    simp only [Option.bind_some]
    apply find?_congr
    intro a ha
    rw [ownMember_agree (hag a (Nat.le_trans ((hcl b c hc).2 a ha) hb))]

theorem parentOf_agree {w w' : World} {n : Nat} (hag : ∀ i, i ≤ n → w'.cls? i = w.cls? i)
    (hcl : ClsClosed w) {b : ClsId} (hb : b ≤ n) (key : String) (which : Nat) :
    parentOf w' key which b = parentOf w key which b := by
  simp only [parentOf, provider_agree hag hcl hb]
  cases hp : provider w b key with
  | none => rfl
  | some p =>
    simp only []
    rw [ownMember_agree (hag p (Nat.le_trans (provider_le hcl hp) hb))]

theorem parentOf_le {w : World} (hcl : ClsClosed w) {b p : ClsId} {key : String} {which : Nat}
    (h : parentOf w key which b = some p) : p ≤ b := by
  unfold parentOf at h
  cases hp : provider w b key with
  | none => simp [hp] at h
  | some q =>
    simp only [hp] at h
    split at h
    · cases h; exact provider_le hcl hp
    · cases h

theorem basesOf_lt {w : World} (hcl : ClsClosed w) {k b : ClsId} (hb : b ∈ basesOf w k) : b < k := by
  unfold basesOf at hb
  cases hc : w.cls? k with
  | none => rw [hc] at hb; cases hb
  | some c => rw [hc] at hb; exact (hcl k c hc).1 b hb

theorem parentsAt_lt {w : World} (hcl : ClsClosed w) (k : ClsId) (key : String) (which : Nat) :
    ∀ p ∈ parentsAt w k key which, p < k := by
  intro p hp
  unfold parentsAt at hp
  split at hp
  · cases hp
  · obtain ⟨b, hb, hpb⟩ := List.mem_filterMap.mp hp
    exact Nat.lt_of_le_of_lt (parentOf_le hcl hpb) (basesOf_lt hcl hb)

theorem parentsAt_agree {w w' : World} {n : Nat} (hag : ∀ i, i ≤ n → w'.cls? i = w.cls? i)
    (hcl : ClsClosed w) {k : ClsId} (hk : k ≤ n) (key : String) (which : Nat) :
    parentsAt w' k key which = parentsAt w k key which := by
  have hbases : basesOf w' k = basesOf w k := by rw [basesOf, hag k hk]; rfl
  unfold parentsAt
  rw [hbases]
  split
  · rfl
  · exact filterMap_congr (fun b hb =>
      parentOf_agree hag hcl (Nat.le_trans (Nat.le_of_lt (basesOf_lt hcl hb)) hk) key which)

theorem specPreAt_agree {w w' : World} {n : Nat} (hag : ∀ i, i ≤ n → w'.cls? i = w.cls? i)
    (hcl : ClsClosed w) (D : Decls) (key : String) (which : Nat) :
    ∀ (fuel : Nat) (k : ClsId), k ≤ n → specPreAt w' D fuel k key which = specPreAt w D fuel k key which := by
  intro fuel
  induction fuel with
  | zero => exact fun _ _ => rfl
  | succ fuel ih =>
    intro k hk
    rw [specPreAt_succ, specPreAt_succ, ownMember_agree (hag k hk), parentsAt_agree hag hcl hk]
    have : (parentsAt w k key which).map (fun p => specPreAt w' D fuel p key which) =
        (parentsAt w k key which).map (fun p => specPreAt w D fuel p key which) :=
      List.map_congr_left (fun p hp => ih p (Nat.le_trans (Nat.le_of_lt (parentsAt_lt hcl k key which p hp)) hk))
    rw [this]

theorem specListAt_agree {w w' : World} {n : Nat} (hag : ∀ i, i ≤ n → w'.cls? i = w.cls? i)
    (hcl : ClsClosed w) (own : FnId → List Nat) (key : String) (which : Nat) :
    ∀ (fuel : Nat) (k : ClsId), k ≤ n →
      specListAt w' own fuel k key which = specListAt w own fuel k key which := by
  intro fuel
  induction fuel with
  | zero => exact fun _ _ => rfl
  | succ fuel ih =>
    intro k hk
    rw [specListAt_succ, specListAt_succ, ownMember_agree (hag k hk), parentsAt_agree hag hcl hk]
    have : (parentsAt w k key which).map (fun p => specListAt w' own fuel p key which) =
        (parentsAt w k key which).map (fun p => specListAt w own fuel p key which) :=
      List.map_congr_left (fun p hp => ih p (Nat.le_trans (Nat.le_of_lt (parentsAt_lt hcl k key which p hp)) hk))
    rw [this]

theorem parentOf_classes {w w' : World} (h : w'.classes = w.classes) (key : String) (which : Nat) :
    parentOf w' key which = parentOf w key which := by
  funext b
  have ho : ∀ a, ownMember w' a key = ownMember w a key := fun a => ownMember_agree (cls?_of_classes h a) key
  simp only [parentOf, provider, cls?_of_classes h, ho]

/-- `w'` has the classes `1 .. n` of the closed table of `w`, and the class `n + 1` is `c`, with earlier classes as
bases -/
structure Extends (w w' : World) (n : Nat) (c : Cls) : Prop where
  old : ∀ i, i ≤ n → w'.cls? i = w.cls? i
  closed : ClsClosed w
  new : w'.cls? (n + 1) = some c
  bases : ∀ b ∈ c.bases, b ≤ n

theorem Extends.parents {w w' : World} {n : Nat} {c : Cls} (e : Extends w w' n c) {key : String} (which : Nat)
    (hctor : key ≠ "__init__" ∧ key ≠ "__new__") :
    parentsAt w' (n + 1) key which = c.bases.filterMap (parentOf w key which) ∧
      ∀ q ∈ c.bases.filterMap (parentOf w key which), q ≤ n := by
  have hk : (key == "__init__" || key == "__new__") = false := by simp [hctor.1, hctor.2]
  refine ⟨?_, fun q hq => ?_⟩
  · simp only [parentsAt, basesOf, hk, e.new, Bool.false_eq_true, if_false, Option.map_some, Option.getD_some]
    exact filterMap_congr (fun b hbm => parentOf_agree e.old e.closed (e.bases b hbm) key which)
  · obtain ⟨b, hbm, hqb⟩ := List.mem_filterMap.mp hq
    exact Nat.le_trans (parentOf_le e.closed hqb) (e.bases b hbm)

/-- the reference semantics of a class with bases `bases` that binds `f` to `key`, over the semantics the table `w`
gives to the providers -/
def newPre (D : Decls) (w : World) (bases : List ClsId) (fuel : Nat) (key : String) (which : Nat) (f : FnId) : PreSpec :=
  preStep (D.ownPre f) ((bases.filterMap (parentOf w key which)).map (fun q => specPreAt w D fuel q key which))

def newList (own : FnId → List Nat) (w : World) (bases : List ClsId) (fuel : Nat) (key : String) (which : Nat)
    (f : FnId) : List Nat :=
  ((bases.filterMap (parentOf w key which)).map (fun q => specListAt w own fuel q key which)).flatten ++ own f

theorem Extends.specPreAt_new {D : Decls} {w w' : World} {n : Nat} {c : Cls} (e : Extends w w' n c)
    {key : String} {which : Nat} {f : FnId} (hown : ownMember w' (n + 1) key = some (.func f))
    (hctor : key ≠ "__init__" ∧ key ≠ "__new__") (fuel : Nat) :
    specPreAt w' D (fuel + 1) (n + 1) key which = newPre D w c.bases fuel key which f := by
  obtain ⟨hpar, hle⟩ := e.parents which hctor
  rw [specPreAt_succ, hpar, hown]
  exact congrArg (preStep (D.ownPre f))
    (List.map_congr_left (fun q hq => specPreAt_agree e.old e.closed D key which fuel q (hle q hq)))

theorem Extends.specListAt_new {own : FnId → List Nat} {w w' : World} {n : Nat} {c : Cls} (e : Extends w w' n c)
    {key : String} {which : Nat} {f : FnId} (hown : ownMember w' (n + 1) key = some (.func f))
    (hctor : key ≠ "__init__" ∧ key ≠ "__new__") (fuel : Nat) :
    specListAt w' own (fuel + 1) (n + 1) key which = newList own w c.bases fuel key which f := by
  obtain ⟨hpar, hle⟩ := e.parents which hctor
  rw [specListAt_succ, hpar, hown]
  exact congrArg (fun l => List.flatten l ++ own f)
    (List.map_congr_left (fun q hq => specListAt_agree e.old e.closed own key which fuel q (hle q hq)))

end Icontract.Meta
