/-
  The generic wrapper skeleton `checkedG`: its four phases, what it needs to know about its hooks
  (`HooksOK`), and the one decomposition of a run (`checkedG_phases`, `checkedG_reaches`) from which
  every statement about the checked path is read off.
-/
import IcontractModel.Lemmas.Generic
import IcontractModel.Lemmas.Leaves
namespace Icontract
open Res

/-- How one condition is evaluated and how the captures are run; building the error and calling the
body are the model's own (`createViolationError`, `runBody`), on the oracle. -/
structure Hooks where
  evPre : Kwargs → Contract → Res Bool
  evPost : Kwargs → Contract → Res Bool
  capture : Kwargs → List (String × Id) → List Snapshot → Res (List (String × Id))
  oracle : Oracle

/-- the keyword arguments in force when the body is called -/
def kwAtBody (ck : Checker) (kw : Kwargs) (old : List (String × Id)) : Kwargs :=
  if !ck.posts.isEmpty && !ck.snaps.isEmpty then kw.set "OLD" (.old old) else kw

def prePhaseG (h : Hooks) (ck : Checker) (call : Call) : Res (Option Raised) :=
  assertPreAuxG (h.evPre (resolved ck call)) none ck.pre >>=
    errOf fun c => createViolationError h.oracle c (resolved ck call)

def capPhaseG (h : Hooks) (ck : Checker) (kw : Kwargs) : Res Kwargs :=
  if !ck.posts.isEmpty && !ck.snaps.isEmpty then do
    let old ← h.capture kw [] ck.snaps
    pure (kw.set "OLD" (.old old))
  else pure kw

def postPhaseG (h : Hooks) (ck : Checker) (kw : Kwargs) (r : Id) : Res (Option Raised) :=
  checkGroupG (h.evPost (kw.set "result" (.obj r))) ck.posts >>=
    errOf fun c => createViolationError h.oracle c (kw.set "result" (.obj r))

def tailG (h : Hooks) (ck : Checker) (call : Call) (kw : Kwargs) : Res Id := do
  let r ← runBody h.oracle call
  let v ← postPhaseG h ck kw r
  raiseIfSome v
  pure r

def checkedG (h : Hooks) (ck : Checker) (call : Call) : Res Id :=
  match assertResolvedKwargsValid (!ck.posts.isEmpty) (resolved ck call) with
  | some e => Res.raise e
  | none => do
    let v ← prePhaseG h ck call
    raiseIfSome v
    let kw ← capPhaseG h ck (resolved ck call)
    tailG h ck call kw

structure ReachesBodyG (h : Hooks) (ck : Checker) (call : Call) (old : List (String × Id)) : Prop where
  valid : assertResolvedKwargsValid (!ck.posts.isEmpty) (resolved ck call) = none
  pre : (prePhaseG h ck call).out = .ok none
  cap : (!ck.posts.isEmpty && !ck.snaps.isEmpty) = true →
        (h.capture (resolved ck call) [] ck.snaps).out = .ok old

/-- What the skeleton needs to know about its hooks: they evaluate a condition as the reference
semantics (`condTruthy`, `condFalsy`) of a sync / an async callable says. -/
structure HooksOK (h : Hooks) (isAsync : Bool) : Prop where
  pre : ∀ kw c, EvalOK (condTruthy isAsync h.oracle kw c) (condFalsy isAsync h.oracle kw c) c (h.evPre kw c)
  post : ∀ kw c, EvalOK (condTruthy isAsync h.oracle kw c) (condFalsy isAsync h.oracle kw c) c (h.evPost kw c)
  cap : ∀ kw acc ss, ∀ e ∈ (h.capture kw acc ss).trace, e.isCapture = true

theorem Event.isCheck_not_body {e : Event} (h : e.isCheck = true) : e.isBody = false := by
  cases e <;> first | rfl | cases h

theorem Event.isCheck_not_capture {e : Event} (h : e.isCheck = true) : e.isCapture = false := by
  cases e <;> first | rfl | cases h

theorem Event.isCapture_not_body {e : Event} (h : e.isCapture = true) : e.isBody = false := by
  cases e <;> first | rfl | cases h

theorem checkedG_of_invalid {ck : Checker} {call : Call} {e : Raised}
    (hv : assertResolvedKwargsValid (!ck.posts.isEmpty) (resolved ck call) = some e) {h : Hooks} :
    checkedG h ck call = Res.raise e := by
  rw [checkedG, hv]

theorem raiseIfSome_bind (v : Option Raised) (k : Unit → Res β) :
    (raiseIfSome v >>= k) = match v with | none => k () | some e => Res.raise e := by
  cases v
  · exact pure_bind'
  · exact raise_bind

theorem bind_raiseIfSome_trace_cases (x : Res (Option Raised)) (k : Res β) :
    (x >>= fun v => raiseIfSome v >>= fun _ => k).trace = x.trace ∨
      x.out = .ok none ∧ (x >>= fun v => raiseIfSome v >>= fun _ => k).trace = x.trace ++ k.trace := by
  rcases bind_trace_cases x _ with h | ⟨v, hv, h⟩
  · exact .inl h
  · rw [raiseIfSome_bind] at h
    cases v with
    | none => exact .inr ⟨hv, h⟩
    | some e => exact .inl (h.trans (List.append_nil _))

theorem capPhaseG_trace_nil {h : Hooks} {ck : Checker} {kw : Kwargs}
    (hn : (!ck.posts.isEmpty && !ck.snaps.isEmpty) = false) : (capPhaseG h ck kw).trace = [] := by
  unfold capPhaseG
  rw [hn]
  rfl

theorem capPhaseG_out_ok_iff {h : Hooks} {ck : Checker} {kw kw' : Kwargs} :
    (capPhaseG h ck kw).out = .ok kw' ↔
      ∃ old, kw' = kwAtBody ck kw old ∧
        ((!ck.posts.isEmpty && !ck.snaps.isEmpty) = true → (h.capture kw [] ck.snaps).out = .ok old) := by
  unfold capPhaseG kwAtBody
  split
  · next hc =>
    simp only [bind_out_ok_iff, pure_out, Except.ok.injEq, hc, true_implies]
    exact ⟨fun ⟨old, ho, hk⟩ => ⟨old, hk.symm, ho⟩, fun ⟨old, hk, ho⟩ => ⟨old, ho, hk.symm⟩⟩
  · next hc =>
    simp only [pure_out, Except.ok.injEq, hc]
    exact ⟨fun hk => ⟨[], hk.symm, fun h' => by cases h'⟩, fun ⟨_, hk, _⟩ => hk.symm⟩

/-- the wrappers' test `if postconditions:` is void: an empty list of postconditions is checked in no steps -/
theorem tailG_eq_ite (h : Hooks) (ck : Checker) (call : Call) (kw : Kwargs) :
    tailG h ck call kw = (runBody h.oracle call >>= fun r =>
      if !ck.posts.isEmpty then postPhaseG h ck kw r >>= fun v => raiseIfSome v >>= fun _ => pure r
      else pure r) := by
  unfold tailG
  refine bind_congr' fun r => ?_
  cases hp : ck.posts with
  | nil => unfold postPhaseG; rw [hp]; rfl
  | cons c cs => rfl

theorem tailG_trace_cases (h : Hooks) (ck : Checker) (call : Call) (kw : Kwargs) :
    (tailG h ck call kw).trace = (runBody h.oracle call).trace ∨
      ∃ r, (tailG h ck call kw).trace = (runBody h.oracle call).trace ++ (postPhaseG h ck kw r).trace := by
  unfold tailG
  rcases bind_trace_cases (runBody h.oracle call) _ with hb | ⟨r, _, hb⟩
  · exact .inl hb
  · rw [hb]
    rcases bind_raiseIfSome_trace_cases (postPhaseG h ck kw r) (pure r : Res Id) with h4 | ⟨_, h4⟩
    · exact .inr ⟨r, congrArg _ h4⟩
    · exact .inr ⟨r, congrArg _ (h4.trans (List.append_nil _))⟩

theorem tailG_out_ok_iff {h : Hooks} {ck : Checker} {call : Call} {kw : Kwargs} {v : Id} :
    (tailG h ck call kw).out = .ok v ↔
      (runBody h.oracle call).out = .ok v ∧ (postPhaseG h ck kw v).out = .ok none := by
  unfold tailG
  rw [bind_out_ok_iff]
  constructor
  · rintro ⟨r, hr, hk⟩
    obtain ⟨w, hw, hk⟩ := bind_out_ok_iff.mp hk
    rw [raiseIfSome_bind] at hk
    cases w with
    | some e => cases hk
    | none => cases hk; exact ⟨hr, hw⟩
  · rintro ⟨hb, hpost⟩
    exact ⟨v, hb, (bind_out_of_ok hpost).trans rfl⟩

theorem tailG_out_violated {h : Hooks} {ck : Checker} {call : Call} {kw : Kwargs} {v : Id} {err : Raised}
    (hb : (runBody h.oracle call).out = .ok v) (hpost : (postPhaseG h ck kw v).out = .ok (some err)) :
    (tailG h ck call kw).out = .error err := by
  unfold tailG
  rw [bind_out_of_ok hb, bind_out_of_ok hpost]
  rfl

theorem tailG_of_raises {h : Hooks} {e : Exc} (hb : h.oracle.body = .raises e) (ck : Checker) (call : Call)
    (kw : Kwargs) : tailG h ck call kw = ⟨[.body call.args call.kwargs], .error (.user e)⟩ := by
  unfold tailG
  rw [runBody_eq, hb]
  rfl

/-- The log of a run in four segments, one per phase: each is empty (the run did not get there) or the whole log of
its phase, so it has whatever holds of both; a segment after the first is non-empty only if the preconditions were
accepted. -/
theorem checkedG_phases (h : Hooks) (ck : Checker) (call : Call) {P1 P2 P3 P4 : Trace → Prop}
    (n1 : P1 []) (n2 : P2 []) (n3 : P3 []) (n4 : P4 [])
    (h1 : P1 (prePhaseG h ck call).trace) (h2 : P2 (capPhaseG h ck (resolved ck call)).trace)
    (h3 : P3 (runBody h.oracle call).trace) (h4 : ∀ kw r, P4 (postPhaseG h ck kw r).trace) :
    ∃ t1 t2 t3 t4, (checkedG h ck call).trace = t1 ++ t2 ++ t3 ++ t4 ∧ P1 t1 ∧ P2 t2 ∧ P3 t3 ∧ P4 t4 ∧
      ((prePhaseG h ck call).out = .ok none ∨ (t2 = [] ∧ t3 = [] ∧ t4 = [])) := by
  unfold checkedG
  split
  · exact ⟨[], [], [], [], rfl, n1, n2, n3, n4, .inr ⟨rfl, rfl, rfl⟩⟩
  · rcases bind_raiseIfSome_trace_cases (prePhaseG h ck call)
        (capPhaseG h ck (resolved ck call) >>= tailG h ck call) with e1 | ⟨hacc, e1⟩
    · exact ⟨_, [], [], [], e1.trans (by simp only [List.append_nil]), h1, n2, n3, n4, .inr ⟨rfl, rfl, rfl⟩⟩
    · rw [e1]
      rcases bind_trace_cases (capPhaseG h ck (resolved ck call)) (tailG h ck call) with e2 | ⟨kw, _, e2⟩ <;>
        rw [e2]
      · exact ⟨_, _, [], [], by simp only [List.append_nil], h1, h2, n3, n4, .inl hacc⟩
      · rcases tailG_trace_cases h ck call kw with e3 | ⟨r, e3⟩ <;> rw [e3]
        · exact ⟨_, _, _, [], by simp only [List.append_nil, List.append_assoc], h1, h2, h3, n4, .inl hacc⟩
        · exact ⟨_, _, _, _, by simp only [List.append_assoc], h1, h2, h3, h4 kw r, .inl hacc⟩

theorem checkedG_reaches {h : Hooks} {ck : Checker} {call : Call} {old : List (String × Id)}
    (hr : ReachesBodyG h ck call old) :
    (checkedG h ck call).out = (tailG h ck call (kwAtBody ck (resolved ck call) old)).out ∧
    (checkedG h ck call).trace =
      (prePhaseG h ck call).trace ++ (capPhaseG h ck (resolved ck call)).trace ++
      (tailG h ck call (kwAtBody ck (resolved ck call) old)).trace := by
  have hc := capPhaseG_out_ok_iff.mpr ⟨old, rfl, hr.cap⟩
  unfold checkedG
  simp only [hr.valid]
  constructor
  · rw [bind_out_of_ok hr.pre, raiseIfSome_bind, bind_out_of_ok hc]
  · rw [bind_trace_of_ok hr.pre, raiseIfSome_bind, bind_trace_of_ok hc, List.append_assoc]

theorem checkedG_body_mem {h : Hooks} {ck : Checker} {call : Call} {old : List (String × Id)}
    (hr : ReachesBodyG h ck call old) : Event.body call.args call.kwargs ∈ (checkedG h ck call).trace := by
  rw [(checkedG_reaches hr).2]
  unfold tailG
  refine List.mem_append_right _ (mem_bind_trace.mpr (.inl ?_))
  rw [runBody_eq]
  exact List.mem_singleton.mpr rfl

theorem tailG_out_ok_of_checkedG {h : Hooks} {ck : Checker} {call : Call} {v : Id}
    (hret : (checkedG h ck call).out = .ok v) :
    ∃ old, (tailG h ck call (kwAtBody ck (resolved ck call) old)).out = .ok v := by
  unfold checkedG at hret
  split at hret
  · cases hret
  · obtain ⟨w, _, hret⟩ := bind_out_ok_iff.mp hret
    rw [raiseIfSome_bind] at hret
    cases w with
    | some e => cases hret
    | none =>
      obtain ⟨kw', hk, hret⟩ := bind_out_ok_iff.mp hret
      obtain ⟨old, rfl, _⟩ := capPhaseG_out_ok_iff.mp hk
      exact ⟨old, hret⟩

section
variable {h : Hooks} {isAsync : Bool} (ok : HooksOK h isAsync) {ck : Checker} {call : Call}
include ok

theorem prePhaseG_checkOnly :
    ∀ e ∈ (prePhaseG h ck call).trace, e.isCheck = true :=
  bind_errOf_forall
    (assertPreAuxG_trace (fun c => (ok.pre _ c).checkOnly) ck.pre none) fun _ => createViolationError_checkOnly

theorem postPhaseG_checkOnly {kw : Kwargs} {r : Id} :
    ∀ e ∈ (postPhaseG h ck kw r).trace, e.isCheck = true :=
  bind_errOf_forall (checkGroupG_trace (fun c => (ok.post _ c).checkOnly) ck.posts)
    fun _ => createViolationError_checkOnly

theorem prePhaseG_none (hp : (prePhaseG h ck call).out = .ok none) :
    dnfHolds isAsync h.oracle (resolved ck call) ck.pre :=
  (assertPreAuxG_none (bind_errOf_out_none_iff.mp hp)).imp And.left fun ⟨g, hg, hall⟩ =>
    ⟨g, hg, fun c hc => (ok.pre _ c).out_false.mp (hall c hc)⟩

theorem capPhaseG_captureOnly {kw : Kwargs} :
    ∀ e ∈ (capPhaseG h ck kw).trace, e.isCapture = true := by
  unfold capPhaseG
  split
  · rw [bind_pure_trace]
    exact ok.cap _ _ _
  · exact List.forall_mem_nil _

theorem checkedG_after_pre {e : Event}
    (he : e ∈ (checkedG h ck call).trace) (hnc : ¬ e.isCheck = true) :
    dnfHolds isAsync h.oracle (resolved ck call) ck.pre := by
  obtain ⟨t1, _, _, _, ht, a1, -, -, -, hacc | ⟨rfl, rfl, rfl⟩⟩ := checkedG_phases h ck call
    (P1 := fun t => ∀ e ∈ t, e.isCheck = true) (P2 := fun _ => True) (P3 := fun _ => True) (P4 := fun _ => True)
    (List.forall_mem_nil _) trivial trivial trivial (prePhaseG_checkOnly ok) trivial trivial fun _ _ => trivial
  · exact prePhaseG_none ok hacc
  · rw [ht, List.append_nil, List.append_nil, List.append_nil] at he
    exact absurd (a1 e he) hnc

theorem checkedG_body_dnf (hb : bodyEntered (checkedG h ck call).trace) :
    dnfHolds isAsync h.oracle (resolved ck call) ck.pre := by
  obtain ⟨e, he, hbe⟩ := hb
  exact checkedG_after_pre ok he fun hc => by rw [Event.isCheck_not_body hc] at hbe; cases hbe

theorem checkedG_capture_dnf (hb : captured (checkedG h ck call).trace) :
    dnfHolds isAsync h.oracle (resolved ck call) ck.pre := by
  obtain ⟨e, he, hbe⟩ := hb
  exact checkedG_after_pre ok he fun hc => by rw [Event.isCheck_not_capture hc] at hbe; cases hbe

theorem checkedG_enters
    (hvalid : assertResolvedKwargsValid (!ck.posts.isEmpty) (resolved ck call) = none)
    (htot : ∀ g ∈ ck.pre, totalOn isAsync h.oracle (resolved ck call) g)
    (hdnf : dnfHolds isAsync h.oracle (resolved ck call) ck.pre)
    (hcap : ∃ old, (h.capture (resolved ck call) [] ck.snaps).out = .ok old) :
    bodyEntered (checkedG h ck call).trace := by
  obtain ⟨old, hold⟩ := hcap
  have hpre : (prePhaseG h ck call).out = .ok none := by
    refine bind_errOf_out_none_iff.mpr ?_
    rcases hdnf with hnil | ⟨g, hg, hall⟩
    · rw [hnil]; rfl
    · rw [assertPreAuxG_det ck.pre none fun g hg c hc => (ok.pre _ c).det (htot g hg c hc),
        if_pos (List.any_eq_true.mpr ⟨g, hg, List.all_eq_true.mpr hall⟩)]
  exact ⟨_, checkedG_body_mem ⟨hvalid, hpre, fun _ => hold⟩, rfl⟩

/-- `assertPreAuxG_det`, read where no group holds, gives the contract the loops yield (the first falsy one of the
last group); `bind_errOf_out_some` the error built for it, which `raiseIfSome` raises. -/
theorem checkedG_pre_violated
    (hvalid : assertResolvedKwargsValid (!ck.posts.isEmpty) (resolved ck call) = none)
    (htot : ∀ g ∈ ck.pre, totalOn isAsync h.oracle (resolved ck call) g)
    (hno : ¬ dnfHolds isAsync h.oracle (resolved ck call) ck.pre) :
    ∃ gl c, ck.pre.getLast? = some gl ∧ firstFalsy isAsync h.oracle (resolved ck call) gl = some c ∧
      ∀ err, (createViolationError h.oracle c (resolved ck call)).out = .ok err →
        (checkedG h ck call).out = .error err := by
  cases hgl : ck.pre.getLast? with
  | none => exact absurd (.inl (List.getLast?_eq_none_iff.mp hgl)) hno
  | some gl =>
    cases hc : firstFalsy isAsync h.oracle (resolved ck call) gl with
    | none =>
      refine absurd (.inr ⟨gl, List.mem_of_getLast? hgl, fun c hc' => ?_⟩) hno
      simpa using List.find?_eq_none.mp hc c hc'
    | some c =>
      refine ⟨gl, c, rfl, hc, fun err herr => ?_⟩
      have haux := assertPreAuxG_det ck.pre none fun g hg c hc => (ok.pre _ c).det (htot g hg c hc)
      rw [if_neg fun hany => (List.any_eq_true.mp hany).elim fun g hg =>
        hno (.inr ⟨g, hg.1, List.all_eq_true.mp hg.2⟩), hgl] at haux
      have hpre : (prePhaseG h ck call).out = .ok (some err) :=
        bind_errOf_out_some (haux.trans (congrArg _ hc)) herr
      unfold checkedG
      simp only [hvalid]
      rw [bind_out_of_ok hpre, raiseIfSome_bind]
      rfl

end

end Icontract
