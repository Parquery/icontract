/-
  The evaluator `run` alone: what `add`, `discard` and `emit` do to the in-progress set, and that the
  repaired discipline restores it (`run_s`); more fuel never changes a finished evaluation
  (`run_fuelLe`); the upstream discipline (`Variant.upstream`) recurses without bound on a precondition
  that calls its own function twice (`upstream_diverges`).
-/
import IcontractModel.Lemmas.Reentry
namespace Icontract.Re

theorem contains_add (st : St) (k k' : Key) :
    (st.add k).s.contains k' = (k' == k || st.s.contains k') := by
  unfold St.add
  split
  next h =>
    by_cases hk : k' = k
    · subst hk; rw [h, Bool.or_true]
    · rw [beq_false_of_ne hk, Bool.false_or]
  next h => exact List.contains_cons

theorem contains_discard (st : St) (k k' : Key) :
    (st.discard k).s.contains k' = (k' != k && st.s.contains k') := by
  unfold St.discard
  rw [Bool.eq_iff_iff]
  simp [List.mem_filter, and_comm]

theorem emit_s (st : St) (e : Ev) : (st.emit e).s = st.s := rfl
theorem emit_tr (st : St) (e : Ev) : (st.emit e).tr = st.tr ++ [e] := rfl
theorem add_tr (st : St) (k : Key) : (st.add k).tr = st.tr := by
  unfold St.add; split <;> rfl
theorem discard_tr (st : St) (k : Key) : (st.discard k).tr = st.tr := rfl

/-- the same members, in lists that may differ; what the repaired discipline restores is more, the list
itself (`run_s`) -/
def SameMem (a b : List Key) : Prop := ∀ k, a.contains k = b.contains k
theorem SameMem.symm {a b : List Key} (h1 : SameMem a b) : SameMem b a := fun k => (h1 k).symm
theorem SameMem.discard {a b : St} (h : SameMem a.s b.s) (x : Key) :
    SameMem (a.discard x).s (b.discard x).s := by
  intro k; rw [contains_discard, contains_discard, h k]

theorem discard_s_congr {a b : St} (h : a.s = b.s) (k : Key) : (a.discard k).s = (b.discard k).s := by
  unfold St.discard; rw [h]

theorem add_s_congr {a b : St} (h : a.s = b.s) (k : Key) : (a.add k).s = (b.add k).s := by
  unfold St.add; rw [h]; split <;> simp only [h]

theorem discard_add_s (st : St) (k : Key) : ((st.add k).discard k).s = (st.discard k).s := by
  unfold St.add
  split
  · rfl
  · show List.filter (· != k) (k :: st.s) = _
    rw [List.filter_cons_of_neg (by simp)]; rfl

theorem discard_s_of_not_contains {st : St} {k : Key} (h : st.s.contains k = false) :
    (st.discard k).s = st.s := by
  show List.filter (· != k) st.s = st.s
  rw [List.filter_eq_self]
  intro a ha
  rw [bne_iff_ne]
  rintro rfl
  rw [List.contains_eq_mem, decide_eq_false_iff_not] at h
  exact h ha

/-- `finally: discard` undoes the `add` made on entry -/
theorem restored_of_eq_add {st s : St} {k : Key} (hc : st.s.contains k = false) (h : s.s = (st.add k).s) :
    (s.discard k).s = st.s := by
  rw [discard_s_congr h, discard_add_s, discard_s_of_not_contains hc]

theorem run_s {p : Program} {n : Nat} {st : St} {cmd : Cmd} : (run p .repaired n st cmd).1.s = st.s := by
  induction n generalizing st cmd with
  | zero => rfl
  | succ n ih =>
    cases cmd using Cmd.conds_cases with
    | script s => rw [run_script]; exact ih
    | acts as =>
      cases as with
      | nil => rfl
      | cons a rest =>
        rw [run_acts_cons]
        exact andThen_fst (Q := fun s : St => s.s = st.s) ih fun st' h' => ih.trans h'
    | conds h k cs =>
      cases cs with
      | nil => rw [h.run_nil]
      | cons c cs =>
        rw [h.run_cons]
        refine andThen_fst (Q := fun s : St => s.s = st.s) ih fun st' h' => ?_
        split
        · exact ih.trans h'
        · exact h'
    | act a =>
      cases a with
      | callFn f =>
        cases h : p.fn? f with
        | none => rw [run_callFn_none h]
        | some d =>
          cases hc : st.s.contains (.fn f) with
          | true => rw [run_callFn_bare_repaired h hc]; exact ih
          | false =>
            -- the set is `st.s` again once `.fn f` is discarded: after the preconditions, after the
            -- body (that ran without it) and after the postconditions
            rw [run_callFn_checked_repaired h hc]
            refine andThen_fst (Q := fun s : St => (s.discard (.fn f)).s = st.s)
              (restored_of_eq_add hc ih) fun st1 h1 => ?_
            have hb : ∀ {s : St}, s.s = (st1.discard (.fn f)).s → (s.discard (.fn f)).s = st.s :=
              fun hs => by rw [discard_s_congr (hs.trans h1), discard_s_of_not_contains hc]
            refine andThen_fst (Q := fun s : St => (s.discard (.fn f)).s = st.s) (hb ih) fun st2 h2 => ?_
            rw [discard_s_congr ih, discard_add_s, h2]
      | callMethod i m =>
        rcases p.meth?_cases i m with h | ⟨c, md, h⟩
        · rw [run_callMethod_none h]
        · cases hc : (!md.guarded || st.s.contains (.inst i)) with
          | true => rw [run_callMethod_bare h hc]; exact ih
          | false =>
            rw [run_callMethod_checked h hc]
            refine restored_of_eq_add (Bool.or_eq_false_iff.mp hc).2 ?_
            refine andThen_fst (Q := fun s : St => s.s = (st.add (.inst i)).s) ih fun st1 h1 => ?_
            exact andThen_fst (Q := fun s : St => s.s = (st.add (.inst i)).s) (ih.trans h1)
              fun st2 h2 => ih.trans h2
      | construct i => rw [run_construct]; exact ih
      | superInit i cid =>
        cases h : p.cls? cid with
        | none => rw [run_superInit_none h]
        | some c =>
          cases hc : (!c.initWrapped || st.s.contains (.inst i)) with
          | true => rw [run_superInit_bare_repaired h hc]; exact ih
          | false =>
            rw [run_superInit_checked_repaired h hc]
            refine restored_of_eq_add (Bool.or_eq_false_iff.mp hc).2 ?_
            exact andThen_fst (Q := fun s : St => s.s = (st.add (.inst i)).s) ih
              fun st1 h1 => ih.trans h1

/-- `r'` is `r`, unless `r` ran out of fuel -/
def FuelLe {σ} (r r' : σ × Out) : Prop := r.2 = .timeout ∨ r = r'

theorem FuelLe.refl {σ} {r : σ × Out} : FuelLe r r := .inr rfl

theorem FuelLe.andThen {σ} {r r' : σ × Out} {k k' : σ → σ × Out} (h : FuelLe r r')
    (hk : ∀ s, FuelLe (k s) (k' s)) : FuelLe (andThen r k) (andThen r' k') := by
  rcases h with h | rfl
  · exact .inl (andThen_snd_timeout h)
  · by_cases hok : r.2 = .ok
    · rw [andThen_ok hok, andThen_ok hok]; exact hk _
    · rw [andThen_ne hok, andThen_ne hok]; exact .refl

theorem FuelLe.mapFst {σ} {r r' : σ × Out} (g : σ → σ) (h : FuelLe r r') :
    FuelLe (g r.1, r.2) (g r'.1, r'.2) :=
  h.imp id fun e => by rw [e]

theorem FuelLe.fin {r r' : St × Out} {k : Key} (h : FuelLe r r') : FuelLe (fin k r) (fin k r') :=
  h.mapFst (·.discard k)

theorem run_fuelLe {p : Program} {v : Variant} {n : Nat} {st : St} {cmd : Cmd} :
    FuelLe (run p v n st cmd) (run p v (n + 1) st cmd) := by
  induction n generalizing st cmd with
  | zero => exact .inl rfl
  | succ n ih =>
    cases cmd using Cmd.conds_cases with
    | script s => rw [run_script, run_script]; exact ih
    | acts as =>
      cases as with
      | nil => exact .refl
      | cons a rest =>
        rw [run_acts_cons, run_acts_cons]
        exact ih.andThen fun s => ih
    | conds h k cs =>
      cases cs with
      | nil => rw [h.run_nil, h.run_nil]; exact .refl
      | cons c cs =>
        rw [h.run_cons, h.run_cons]
        refine ih.andThen fun s => ?_
        split
        · exact ih
        · exact .refl
    | act a =>
      cases a with
      | callFn f =>
        cases h : p.fn? f with
        | none => rw [run_callFn_none h, run_callFn_none h]; exact .refl
        | some d =>
          cases hc : st.s.contains (.fn f) with
          | true =>
            rw [run_callFn_bare h hc, run_callFn_bare h hc]
            exact ih.mapFst fun s => if v.shortcutDiscards then s.discard (.fn f) else s
          | false =>
            rw [run_callFn_checked h hc, run_callFn_checked h hc]
            exact (ih.andThen fun st1 => ih.andThen fun st2 => ih).fin
      | callMethod i m =>
        rcases p.meth?_cases i m with h | ⟨c, md, h⟩
        · rw [run_callMethod_none h, run_callMethod_none h]; exact .refl
        · cases hc : (!md.guarded || st.s.contains (.inst i)) with
          | true =>
            rw [run_callMethod_bare h hc, run_callMethod_bare h hc]
            exact ih
          | false =>
            rw [run_callMethod_checked h hc, run_callMethod_checked h hc]
            exact (ih.andThen fun st1 => ih.andThen fun st2 => ih).fin
      | construct i => rw [run_construct, run_construct]; exact ih
      | superInit i cid =>
        cases h : p.cls? cid with
        | none => rw [run_superInit_none h, run_superInit_none h]; exact .refl
        | some c =>
          cases hc : (!c.initWrapped || (v.ctorTestsMembership && st.s.contains (.inst i))) with
          | true =>
            rw [run_superInit_bare h hc, run_superInit_bare h hc]
            exact ih
          | false =>
            rw [run_superInit_checked h hc, run_superInit_checked h hc]
            exact (ih.andThen fun st1 => ih).fin

theorem run_fuel_mono_le {p : Program} {v : Variant} {n m : Nat} {st : St} {cmd : Cmd} (hnm : n ≤ m)
    (h : (run p v n st cmd).2 ≠ .timeout) : run p v m st cmd = run p v n st cmd := by
  induction hnm with
  | refl => rfl
  | step _ ih => rw [← run_fuelLe.resolve_left (by rw [ih]; exact h), ih]

theorem run_timeout_of_le {p : Program} {v : Variant} {n m : Nat} {st : St} {cmd : Cmd} (hnm : n ≤ m)
    (h : (run p v m st cmd).2 = .timeout) : (run p v n st cmd).2 = .timeout :=
  Decidable.byContradiction fun hn => hn (run_fuel_mono_le hnm hn ▸ h)

theorem run_empty_script (p v) (n : Nat) (st : St) :
    run p v n st (.script {}) = (st, .ok) ∨ (run p v n st (.script {})).2 = .timeout := by
  match n with
  | 0 => right; rw [run_zero]
  | 1 => right; rw [run_script, run_zero]
  | n+2 => left; rw [run_script]; exact run_acts_nil

theorem upstream_diverges {p : Program} {f : FnId}
    (hp : p.fn? f = some { pre := [{ actions := [.callFn f, .callFn f] }], body := {} })
    {fuel : Nat} {st : St} (hc : st.s.contains (.fn f) = false) :
    (run p .upstream fuel st (.act (.callFn f))).2 = .timeout := by
  -- one round (checked call, precondition, its script, first inner call on the short-cut path, which
  -- discards the mark) takes five levels and ends in a checked call again
  have round : ∀ (k : Nat) (st : St), st.s.contains (.fn f) = false →
      (run p .upstream (5 * k) st (.act (.callFn f))).2 = .timeout := by
    intro k
    induction k with
    | zero => intro st _; rfl
    | succ k ih =>
      intro st hc
      have hin : ((st.add (.fn f)).emit (.cond f 0)).s.contains (.fn f) = true := by
        rw [emit_s, contains_add, beq_self_eq_true]; rfl
      rw [Nat.mul_succ, run_callFn_checked hp hc, fin_snd]
      apply andThen_snd_timeout
      rw [run_pres_cons]
      apply andThen_snd_timeout
      rw [run_script, run_acts_cons, run_callFn_bare hp hin]
      rcases run_empty_script p .upstream (5 * k)
        (((st.add (.fn f)).emit (.cond f 0)).emit (.body f)) with h | h
      · rw [h]
        simp only [Variant.upstream, if_true, andThen_mk_ok]
        rw [run_acts_cons]
        apply andThen_snd_timeout
        apply ih
        rw [contains_discard, bne_self_eq_false]; rfl
      · apply andThen_snd_timeout
        exact h
  exact run_timeout_of_le (Nat.le_mul_of_pos_left fuel (by decide)) (round fuel st hc)

end Icontract.Re
