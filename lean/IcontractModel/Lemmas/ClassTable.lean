/-
  The class table of a history of class statements without invariants (`DClassInv`, `DClsOk`; `D`: of a dag history,
  here and in `DCkInv`, `DagInv`, as against a chain): classes `1 .. n` in order, each
  with the bases and the members of its statement; what `lookupMember` and the reference semantics' `ownMember` /
  `parentOf` find in such a table; how it grows by one class.
-/
import IcontractModel.Lemmas.MetaClass
import IcontractModel.Lemmas.Override
import IcontractModel.Spec.DagHistory
namespace Icontract.Meta

theorem mem_allLevels {done : List ClassDef} {i : Nat} (hi : i < done.length) {key : String} {l : ChainLevel}
    (h : (key, l) ∈ (done[i]).members) : l.f ∈ (allLevels done).map (·.f) :=
  List.mem_map.mpr
    ⟨l, List.mem_flatMap.mpr ⟨done[i], List.getElem_mem hi, List.mem_map.mpr ⟨(key, l), h, rfl⟩⟩, rfl⟩

theorem allLevels_snoc (done : List ClassDef) (d : ClassDef) :
    allLevels (done ++ [d]) = allLevels done ++ d.members.map (·.2) := by
  simp [allLevels, List.flatMap_append]

theorem allLevels_fns (ds : List ClassDef) :
    (allLevels ds).map (·.f) = ds.flatMap (fun d => d.members.map (·.2.f)) := by
  simp only [allLevels, List.map_flatMap, List.map_map]
  rfl

structure DClsOk (c : Cls) (i : Nat) (d : ClassDef) : Prop where
  bases : c.bases = d.bases
  ns : c.ns = d.members.map (fun p => (p.1, Member.func p.2.f))
  declared : c.declared = c.ns.map (·.1)
  mro : ∀ a ∈ c.mro, a ≤ i + 1
  inv : ∀ dd, c.invRef dd = none

/-- the class table after the definitions `done`: classes `1 .. done.length`, nothing else -/
structure DClassInv (w : World) (done : List ClassDef) : Prop where
  clsNone : ∀ i, (i = 0 ∨ done.length < i) → w.cls? i = none
  clsSome : ∀ i (hi : i < done.length), ∃ c, w.cls? (i + 1) = some c ∧ DClsOk c i (done[i])
  basesLe : ∀ i (hi : i < done.length), ∀ b ∈ (done[i]).bases, 1 ≤ b ∧ b ≤ i
  keys : ∀ i (hi : i < done.length), ((done[i]).members.map (·.1)).Nodup

theorem DClassInv.empty {w : World} (h : w.classes = []) : DClassInv w [] :=
  ⟨fun i _ => by simp only [World.cls?, h, List.find?_nil], fun _ hi => absurd hi (Nat.not_lt_zero _),
    fun _ hi => absurd hi (Nat.not_lt_zero _), fun _ hi => absurd hi (Nat.not_lt_zero _)⟩

theorem DClassInv.cls_cases {w : World} {done : List ClassDef} (a : DClassInv w done) (x : Nat) :
    w.cls? x = none ∨ ∃ i, ∃ hi : i < done.length, x = i + 1 ∧ ∃ c, w.cls? x = some c ∧ DClsOk c i (done[i]) := by
  cases x with
  | zero => exact Or.inl (a.clsNone 0 (Or.inl rfl))
  | succ i =>
    by_cases hi : i < done.length
    · obtain ⟨c, hc, ok⟩ := a.clsSome i hi
      exact Or.inr ⟨i, hi, rfl, c, hc, ok⟩
    · exact Or.inl (a.clsNone _ (Or.inr (Nat.lt_succ_of_le (Nat.le_of_not_lt hi))))

theorem DClassInv.lookupInv_none {w : World} {done : List ClassDef} (a : DClassInv w done) (k : ClsId)
    (d : InvDunder) : lookupInv w k d = none := by
  refine (lookupInv_none_iff w k d).mpr (fun x _ => ?_)
  rcases a.cls_cases x with h | ⟨i, hi, _, cx, h, ok⟩ <;> rw [h]
  · rfl
  · exact ok.inv d

theorem DClassInv.closed {w : World} {done : List ClassDef} (a : DClassInv w done) : ClsClosed w := by
  intro k c hc
  rcases a.cls_cases k with h | ⟨i, hi, rfl, cx, h, ok⟩
  · rw [h] at hc; cases hc
  · rw [h] at hc
    cases hc
    refine ⟨fun b hb => ?_, ok.mro⟩
    rw [ok.bases] at hb
    exact Nat.lt_succ_of_le (a.basesLe i hi b hb).2

theorem DClassInv.of_classes {w w' : World} {done : List ClassDef} (a : DClassInv w done)
    (h : w'.classes = w.classes) : DClassInv w' done := by
  exact ⟨fun i hi => by rw [cls?_of_classes h]; exact a.clsNone i hi,
    fun i hi => by rw [cls?_of_classes h]; exact a.clsSome i hi, a.basesLe, a.keys⟩

theorem DClassInv.ownMember_eq {w : World} {done : List ClassDef} (a : DClassInv w done)
    {i : Nat} (hi : i < done.length) (key : String) :
    ownMember w (i + 1) key = ((done[i]).members.find? (·.1 == key)).map (fun q => Member.func q.2.f) := by
  obtain ⟨c, hc, ok⟩ := a.clsSome i hi
  rw [ownMember_of_declared hc ok.declared, ok.ns, List.find?_map, Option.map_map]
  rfl

theorem DClassInv.ownMember_of_mem {w : World} {done : List ClassDef} (a : DClassInv w done)
    {i : Nat} {x : ClassDef} (hx : done[i]? = some x) {key : String} {l : ChainLevel} (hm : (key, l) ∈ x.members) :
    ownMember w (i + 1) key = some (.func l.f) := by
  obtain ⟨hi, rfl⟩ := List.getElem?_eq_some_iff.mp hx
  rw [a.ownMember_eq hi, find?_of_nodup_map Prod.fst (key, l) _ (a.keys i hi) hm]
  rfl

theorem DClassInv.provider_func {w : World} {done : List ClassDef} (a : DClassInv w done) {b p : ClsId}
    {key : String} (h : provider w b key = some p) :
    ∃ i, ∃ hi : i < done.length, p = i + 1 ∧ ∃ l, (key, l) ∈ (done[i]).members ∧
      ownMember w p key = some (.func l.f) := by
  obtain ⟨_, _, _, hsome⟩ := provider_mem h
  rcases a.cls_cases p with hn | ⟨i, hi, rfl, _⟩
  · rw [ownMember, hn] at hsome
    cases hsome
  · refine ⟨i, hi, rfl, ?_⟩
    rw [a.ownMember_eq hi] at hsome ⊢
    cases hq : (done[i]).members.find? (·.1 == key) with
    | none => rw [hq] at hsome; cases hsome
    | some q =>
      have hk : q.1 = key := beq_iff_eq.mp (List.find?_some (p := fun x : String × ChainLevel => x.1 == key) hq)
      exact ⟨q.2, hk ▸ List.mem_of_find?_eq_some hq, rfl⟩

theorem DClassInv.lookupMember_eq {w : World} {done : List ClassDef} (a : DClassInv w done)
    (b : ClsId) (key : String) :
    lookupMember w b key = (provider w b key).bind (fun p => ownMember w p key) := by
  have hf : (fun x => (w.cls? x).bind (fun ca => (ca.ns.find? (·.1 == key)).map (·.2))) =
      fun x => ownMember w x key := by
    funext x
    rcases a.cls_cases x with hn | ⟨i, hi, _, c, hc, ok⟩
    · rw [ownMember, hn]
      rfl
    · rw [ownMember_of_declared hc ok.declared, hc]; rfl
  rw [Icontract.Meta.lookupMember_eq, hf, findSome?_eq_find?_bind]
  unfold provider mroOf
  cases w.cls? b <;> rfl

/-- the function object class `k` binds to `key` -/
def fnAt (w : World) (key : String) (k : ClsId) : FnId :=
  ((ownMember w k key).bind (fun m => memberFn m 0)).getD 0

theorem DClassInv.parentOf_some {w : World} {done : List ClassDef} (a : DClassInv w done) {b p : ClsId}
    {key : String} (h : parentOf w key 0 b = some p) :
    ∃ i, ∃ hi : i < done.length, p = i + 1 ∧ ∃ l, (key, l) ∈ (done[i]).members ∧ fnAt w key p = l.f := by
  unfold parentOf at h
  cases hp : provider w b key with
  | none => rw [hp] at h; cases h
  | some q =>
    obtain ⟨i, hi, rfl, l, hl, hm⟩ := a.provider_func hp
    simp only [hp, hm, Option.bind_some, memberFn, Option.isSome_some, if_true, Option.some.injEq] at h
    exact ⟨i, hi, h.symm, l, hl, by rw [← h, fnAt, hm]; rfl⟩

theorem DClassInv.lookupMember_parent {w : World} {done : List ClassDef} (a : DClassInv w done) (b : ClsId)
    (key : String) : lookupMember w b key = (parentOf w key 0 b).map (fun p => .func (fnAt w key p)) := by
  rw [a.lookupMember_eq]
  cases hp : provider w b key with
  | none => simp only [parentOf, hp, Option.bind_none, Option.map_none]
  | some p =>
    obtain ⟨_, _, _, l, _, hm⟩ := a.provider_func hp
    simp only [parentOf, hp, fnAt, hm, Option.bind_some, memberFn, Option.isSome_some, if_true, Option.map_some,
      Option.getD_some]

/-- what the bases have as their member `key`, as `member_step` wants it: the functions of the classes that provide it
-/
theorem DClassInv.bases_members {ws w : World} {done : List ClassDef} (cinv : DClassInv ws done)
    (hcls : w.classes = ws.classes) (bases : List ClsId) (key : String) :
    bases.filterMap (fun b => lookupMember w b key) =
      (bases.filterMap (parentOf ws key 0)).map (fun p => Member.func (fnAt ws key p)) := by
  rw [List.map_filterMap]
  exact filterMap_congr (fun b _ => by rw [lookupMember_classes hcls, cinv.lookupMember_parent])

theorem DClassInv.basesFor_eq {ws w : World} {done : List ClassDef} (cinv : DClassInv ws done)
    (hcls : w.classes = ws.classes) (bases : List ClsId) (key : String) (f : FnId)
    (hf : f ∉ (allLevels done).map (·.f)) : basesFor w bases key f = bases := by
  refine basesFor_eq_of_members (cinv.bases_members hcls bases key) (fun p hp e => ?_)
  obtain ⟨b, _, hb⟩ := List.mem_filterMap.mp hp
  obtain ⟨i, hi, _, l, hl, e'⟩ := cinv.parentOf_some hb
  exact hf (e ▸ e' ▸ mem_allLevels hi hl)

theorem DClassInv.withCls_cls? {w : World} {done : List ClassDef} (a : DClassInv w done) {c : Cls}
    (hid : c.id = done.length + 1) :
    (withCls w c).cls? (done.length + 1) = some c ∧ ∀ i, i ≠ done.length + 1 → (withCls w c).cls? i = w.cls? i := by
  refine ⟨?_, fun i hi => ?_⟩
  · rw [Icontract.Meta.withCls_cls?, a.clsNone (done.length + 1) (Or.inr (Nat.lt_succ_self _)), if_pos hid]; rfl
  · rw [Icontract.Meta.withCls_cls?, if_neg (fun e => hi (e.symm.trans hid)), Option.or_none]

theorem DClassInv.snoc {w : World} {done : List ClassDef} (a : DClassInv w done) (d : ClassDef) (c : Cls)
    (hid : c.id = done.length + 1) (ok : DClsOk c done.length d)
    (hb : ∀ b ∈ d.bases, 1 ≤ b ∧ b ≤ done.length) (hkeys : (d.members.map (·.1)).Nodup) :
    DClassInv (withCls w c) (done ++ [d]) := by
  obtain ⟨hnew, hold⟩ := a.withCls_cls? hid
  refine ⟨fun i hi => ?_,
    forall_getElem_snoc (P := fun i x => ∃ c', (withCls w c).cls? (i + 1) = some c' ∧ DClsOk c' i x) done d
      (fun i hlt => ?_) ⟨c, hnew, ok⟩,
    forall_getElem_snoc (P := fun i x => ∀ b ∈ x.bases, 1 ≤ b ∧ b ≤ i) done d a.basesLe hb,
    forall_getElem_snoc (P := fun _ x => (x.members.map (·.1)).Nodup) done d a.keys hkeys⟩
  · simp only [List.length_append, List.length_cons, List.length_nil] at hi
    rcases hi with rfl | hi
    · rw [hold 0 (Nat.succ_ne_zero _).symm]
      exact a.clsNone 0 (Or.inl rfl)
    · rw [hold i (Nat.ne_of_gt hi)]
      exact a.clsNone i (Or.inr (Nat.lt_of_succ_lt hi))
  · rw [hold (i + 1) (Nat.succ_ne_succ_iff.mpr (Nat.ne_of_lt hlt))]
    exact a.clsSome i hlt

theorem DClassInv.extends {w w2 : World} {done : List ClassDef} (a : DClassInv w done) (c : Cls)
    (hcls : w2.classes = w.classes) (hid : c.id = done.length + 1) (hb : ∀ b ∈ c.bases, 1 ≤ b ∧ b ≤ done.length) :
    Extends w (withCls w2 c) done.length c := by
  obtain ⟨hnew, hold⟩ := (a.of_classes hcls).withCls_cls? hid
  refine ⟨fun i hi => ?_, a.closed, hnew, fun b hbm => (hb b hbm).2⟩
  rw [hold i (Nat.ne_of_lt (Nat.lt_succ_of_le hi)), cls?_of_classes hcls]

theorem mroOf_le {w : World} (hcl : ClsClosed w) {a b : ClsId} (h : a ∈ mroOf w b) : a ≤ b := by
  unfold mroOf at h
  cases hc : w.cls? b with
  | none => rw [hc] at h; cases h
  | some c => rw [hc] at h; exact (hcl b c hc).2 a h

theorem DClassInv.mro_le {w : World} {done : List ClassDef} (a : DClassInv w done) {bases : List ClsId}
    (hb : ∀ b ∈ bases, 1 ≤ b ∧ b ≤ done.length) {mro : List ClsId}
    (h : computeMro w (done.length + 1) bases = some mro) : ∀ x ∈ mro, x ≤ done.length + 1 := by
  obtain ⟨rest, rfl, hmem⟩ := computeMro_spec h
  intro x hx
  rcases List.mem_cons.mp hx with rfl | hx
  · exact Nat.le_refl _
  · rcases (hmem x).mp hx with hxb | ⟨b, hbm, hxb⟩
    · exact Nat.le_succ_of_le (hb x hxb).2
    · exact Nat.le_succ_of_le (Nat.le_trans (mroOf_le a.closed hxb) (hb b hbm).2)

end Icontract.Meta
