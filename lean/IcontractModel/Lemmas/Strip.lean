/-
  `Res.stripAwait` is a monad morphism, and the async hooks with their await events removed are the
  sync hooks of the plain checker under an awaited oracle (C13).
-/
import IcontractModel.Lemmas.Instances
namespace Icontract
open Res

namespace Res

theorem stripAwait_bind {x : Res α} {f : α → Res β} :
    (x >>= f).stripAwait = (x.stripAwait >>= fun a => (f a).stripAwait) := by
  rw [bind_eq, bind_eq, show x.stripAwait.out = x.out from rfl]
  cases x.out with
  | error e => rfl
  | ok a => exact congrArg (Res.mk · _) (List.filter_append ..)

@[simp] theorem stripAwait_pure (a : α) : (Pure.pure a : Res α).stripAwait = Pure.pure a := rfl

@[simp] theorem stripAwait_raise (e : Raised) : (Res.raise e : Res α).stripAwait = Res.raise e := rfl

theorem stripAwait_emit (ev : Event) :
    (Res.emit ev).stripAwait = if ev.isAwait then Pure.pure () else Res.emit ev := by
  cases h : ev.isAwait <;> simp [Res.stripAwait, Res.emit, h, Pure.pure, Res.ret]

theorem stripAwait_ite (c : Prop) [Decidable c] (x y : Res α) :
    (if c then x else y).stripAwait = if c then x.stripAwait else y.stripAwait := by
  split <;> rfl

theorem stripAwait_of_noAwait {x : Res α} (h : ∀ e ∈ x.trace, e.isAwait = false) :
    x.stripAwait = x := by
  unfold Res.stripAwait
  rw [List.filter_eq_self.mpr fun e he => by simp [h e he]]

end Res

/-- the plain rendering of one contract / snapshot (what `Checker.plain` maps over the lists) -/
def Contract.plain (c : Contract) : Contract := { c with coroFn := false }
def Snapshot.plain (s : Snapshot) : Snapshot := { s with coroFn := false }

theorem Checker.plain_pre (ck : Checker) : ck.plain.pre = ck.pre.map (fun g => g.map Contract.plain) := rfl
theorem Checker.plain_posts (ck : Checker) : ck.plain.posts = ck.posts.map Contract.plain := rfl
theorem Checker.plain_snaps (ck : Checker) : ck.plain.snaps = ck.snaps.map Snapshot.plain := rfl

/-- on a plain contract the coroutine-function test is void, so its place does not matter -/
theorem evalPostSync_plain {o : Oracle} {kw : Kwargs} {c : Contract} :
    evalPostSync o kw c.plain = evalPreSync o kw c.plain :=
  evalPostSync_eq o kw c.plain

theorem selectConditionKwargs_stripAwait (c : Contract) (kw : Kwargs) :
    (selectConditionKwargs c kw).stripAwait = selectConditionKwargs c kw := by
  rw [selectConditionKwargs_eq]
  split <;> rfl

theorem stripAwait_judged (c : Contract) (sel : Kwargs) (a : Ans) (aw : List Event)
    (haw : ∀ e ∈ aw, e.isAwait = true) :
    (⟨.cond c.id sel :: (aw ++ (judge c a).trace), (judge c a).out⟩ : Res Bool).stripAwait =
      ⟨.cond c.id sel :: (judge c a).trace, (judge c a).out⟩ := by
  unfold Res.stripAwait
  rw [List.filter_cons_of_pos rfl, List.filter_append, List.filter_eq_nil_iff.mpr fun e he => by simp [haw e he],
    List.filter_eq_self.mpr fun e he => by rw [judge_trace e he]; rfl]
  rfl

theorem evalCondAsync_stripAwait (o : Oracle) (kw : Kwargs) (c : Contract) :
    (evalCondAsync o kw c).stripAwait =
      (selectConditionKwargs c kw >>= fun sel =>
        let a := if c.coroFn then o.cond c.id else (o.cond c.id).awaited
        ⟨.cond c.id sel :: (judge c a).trace, (judge c a).out⟩) := by
  rw [evalCondAsync_eq, stripAwait_bind, selectConditionKwargs_stripAwait]
  refine bind_congr' fun sel => ?_
  cases c.coroFn with
  | true => exact stripAwait_judged c sel _ [] (List.forall_mem_nil _)
  | false =>
    simp only [Bool.false_eq_true, if_false]
    cases o.cond c.id with
    | coro a => exact stripAwait_judged c sel a [.awaitCond c.id] fun e he => by cases List.mem_singleton.mp he; rfl
    | val v t => exact stripAwait_judged c sel (.val v t) [] (List.forall_mem_nil _)
    | raises e => exact stripAwait_judged c sel (.raises e) [] (List.forall_mem_nil _)

theorem evalPreSync_plain {o : Oracle} {kw : Kwargs} {c : Contract} (h : (o.cond c.id).isCoro = false) :
    evalPreSync o kw c.plain =
      (selectConditionKwargs c kw >>= fun sel =>
        ⟨.cond c.id sel :: (judge c (o.cond c.id)).trace, (judge c (o.cond c.id)).out⟩) := by
  rw [evalPreSync_eq]
  refine bind_congr' (x := selectConditionKwargs c kw) fun sel => ?_
  show (match o.cond c.id with | .coro _ => _ | a => _) = _
  cases ha : o.cond c.id with
  | coro a => rw [ha] at h; cases h
  | val v t => rfl
  | raises e => rfl

theorem evalCond_strip {o o' : Oracle} {kw : Kwargs} {c : Contract}
    (h1 : o'.cond c.id = if c.coroFn then o.cond c.id else (o.cond c.id).awaited)
    (h2 : (o'.cond c.id).isCoro = false) :
    (evalCondAsync o kw c).stripAwait = evalPreSync o' kw c.plain := by
  rw [evalCondAsync_stripAwait, evalPreSync_plain h2, h1]

theorem createViolationError_plain {o o' : Oracle} {c : Contract} {kw : Kwargs}
    (hf : o'.fac = o.fac) (hm : o'.msg = o.msg) :
    createViolationError o' c.plain kw = createViolationError o c kw := by
  rw [createViolationError_eq, createViolationError_eq, hf, hm]
  rfl

theorem createViolationError_stripAwait {o : Oracle} {c : Contract} {kw : Kwargs} :
    (createViolationError o c kw).stripAwait = createViolationError o c kw := by
  refine Res.stripAwait_of_noAwait fun e h => ?_
  rcases mem_createViolationError_trace h with rfl | ⟨sel, rfl⟩ <;> rfl

theorem runBody_stripAwait (o : Oracle) (call : Call) :
    (runBody o call).stripAwait = runBody o call := by
  rw [runBody_eq]
  rfl

theorem runBody_congr {o o' : Oracle} {call : Call} (hb : o'.body = o.body) :
    runBody o' call = runBody o call := by
  rw [runBody_eq, runBody_eq, hb]

theorem raiseIfSome_stripAwait (v : Option Raised) : (raiseIfSome v).stripAwait = raiseIfSome v := by
  cases v <;> rfl

section Loops
variable {ev ev' : Contract → Res Bool}

theorem checkGroupG_strip {g : List Contract} (h : ∀ c ∈ g, (ev c).stripAwait = ev' c.plain) :
    checkGroupG ev' (g.map Contract.plain) =
      ((checkGroupG ev g).stripAwait >>= fun r => Pure.pure (r.map Contract.plain)) := by
  induction g with
  | nil => rfl
  | cons c cs ih =>
    rw [List.forall_mem_cons] at h
    rw [List.map_cons, checkGroupG_cons, checkGroupG_cons]
    rw [stripAwait_bind, bind_assoc', h.1]
    apply bind_congr'
    intro b
    cases b
    · exact ih h.2
    · rfl

theorem assertPreAuxG_strip {gs : List (List Contract)} (last : Option Contract)
    (h : ∀ g ∈ gs, ∀ c ∈ g, (ev c).stripAwait = ev' c.plain) :
    assertPreAuxG ev' (last.map Contract.plain) (gs.map (fun g => g.map Contract.plain)) =
      ((assertPreAuxG ev last gs).stripAwait >>= fun r => Pure.pure (r.map Contract.plain)) := by
  induction gs generalizing last with
  | nil => rfl
  | cons g gs ih =>
    rw [List.forall_mem_cons] at h
    rw [List.map_cons, assertPreAuxG_cons, assertPreAuxG_cons]
    rw [checkGroupG_strip h.1, stripAwait_bind, bind_assoc', bind_assoc']
    apply bind_congr'
    intro r
    cases r with
    | none => rfl
    | some c => exact pure_bind'.trans (ih (some c) h.2)

theorem bind_errOf_strip {x : Res (Option Contract)} {mk mk' : Contract → Res Raised}
    (hmk : ∀ c, (mk c).stripAwait = mk' c.plain) :
    (x >>= errOf mk).stripAwait =
      ((x.stripAwait >>= fun r => Pure.pure (r.map Contract.plain)) >>= errOf mk') := by
  rw [stripAwait_bind, bind_assoc']
  apply bind_congr'
  intro v
  rw [pure_bind']
  cases v with
  | none => rfl
  | some c => exact stripAwait_bind.trans (congrArg (· >>= _) (hmk c))

end Loops

theorem selectCaptureKwargs_stripAwait (s : Snapshot) (kw : Kwargs) :
    (selectCaptureKwargs s kw).stripAwait = selectCaptureKwargs s kw := by
  rw [selectCaptureKwargs_eq]
  split <;> rfl

theorem stripAwait_captured {α : Type} {s : Snapshot} {sel : Kwargs} {aw : List Event} {k : Res α}
    (haw : ∀ e ∈ aw, e.isAwait = true) :
    (⟨.capture s.id sel :: (aw ++ k.trace), k.out⟩ : Res α).stripAwait =
      ⟨.capture s.id sel :: k.stripAwait.trace, k.stripAwait.out⟩ := by
  unfold Res.stripAwait
  rw [List.filter_cons_of_pos rfl, List.filter_append, List.filter_eq_nil_iff.mpr fun e he => by simp [haw e he]]
  rfl

theorem captureOld_strip {o o' : Oracle} {ss : List Snapshot}
    (h : ∀ s ∈ ss, (o'.capture s.id = if s.coroFn then o.capture s.id else (o.capture s.id).awaited) ∧
      (o'.capture s.id).isCoro = false) (kw : Kwargs) (acc : List (String × Id)) :
    (captureOldAsync o kw acc ss).stripAwait = captureOldSync o' kw acc (ss.map Snapshot.plain) := by
  induction ss generalizing acc with
  | nil => rfl
  | cons s ss ih =>
    obtain ⟨h1, h2⟩ := h s List.mem_cons_self
    have ih' := fun acc => ih (fun s hs => h s (List.mem_cons_of_mem _ hs)) acc
    rw [captureOldAsync_cons, ← h1, stripAwait_bind, selectCaptureKwargs_stripAwait, List.map_cons,
      captureOldSync_cons]
    simp only [Snapshot.plain, Bool.false_eq_true, if_false]
    refine bind_congr' (x := selectCaptureKwargs s kw) fun sel => (stripAwait_captured fun e he => ?_).trans ?_
    · split at he
      · cases List.mem_singleton.mp he; rfl
      · cases he
    · cases ha : o'.capture s.id with
      | coro a => rw [ha] at h2; cases h2
      | val v t => simp only []; rw [ih']
      | raises e => rfl

/-- `stripAwait` is pushed through every bind of the skeleton (`stripAwait_bind`), phase by phase: `e1`, `e2` are the
equations of the precondition and the capture phase, then the tail is opened, body first. -/
theorem checkedG_strip {h h' : Hooks} {ck : Checker}
    (hpre : ∀ kw, ∀ g ∈ ck.pre, ∀ c ∈ g, (h.evPre kw c).stripAwait = h'.evPre kw c.plain)
    (hpost : ∀ kw, ∀ c ∈ ck.posts, (h.evPost kw c).stripAwait = h'.evPost kw c.plain)
    (hcap : ∀ kw acc, (h.capture kw acc ck.snaps).stripAwait = h'.capture kw acc ck.plain.snaps)
    (hb : h'.oracle.body = h.oracle.body) (hf : h'.oracle.fac = h.oracle.fac)
    (hm : h'.oracle.msg = h.oracle.msg) {call : Call} :
    (checkedG h ck call).stripAwait = checkedG h' ck.plain call := by
  have herr : ∀ kw c, (createViolationError h.oracle c kw).stripAwait =
      createViolationError h'.oracle c.plain kw := fun kw c =>
    createViolationError_stripAwait.trans (createViolationError_plain hf hm).symm
  have hne : ck.plain.posts.isEmpty = ck.posts.isEmpty := List.isEmpty_map
  have hse : ck.plain.snaps.isEmpty = ck.snaps.isEmpty := List.isEmpty_map
  unfold checkedG
  rw [hne, show resolved ck.plain call = resolved ck call from rfl]
  cases assertResolvedKwargsValid (!ck.posts.isEmpty) (resolved ck call) with
  | some e => rfl
  | none =>
    simp only [stripAwait_bind]
    have e1 : (prePhaseG h ck call).stripAwait = prePhaseG h' ck.plain call := by
      unfold prePhaseG
      rw [bind_errOf_strip (mk' := fun c => createViolationError h'.oracle c _) (herr _)]
      exact congrArg (· >>= _) (assertPreAuxG_strip none (hpre _)).symm
    rw [e1]
    apply bind_congr'; intro v
    rw [raiseIfSome_stripAwait]
    apply bind_congr'; intro _
    have e2 : ∀ kw, (capPhaseG h ck kw).stripAwait = capPhaseG h' ck.plain kw := by
      intro kw
      unfold capPhaseG
      rw [hne, hse]
      cases !ck.posts.isEmpty && !ck.snaps.isEmpty with
      | true => exact stripAwait_bind.trans (congrArg (· >>= _) (hcap kw []))
      | false => rfl
    rw [e2]
    apply bind_congr'; intro kw
    unfold tailG
    rw [stripAwait_bind, runBody_stripAwait, runBody_congr hb]
    apply bind_congr'; intro r
    unfold postPhaseG
    simp only [stripAwait_bind, raiseIfSome_stripAwait, stripAwait_pure]
    rw [← stripAwait_bind, bind_errOf_strip (mk' := fun c => createViolationError h'.oracle c _) (herr _)]
    exact congrArg (· >>= _) (congrArg (· >>= _) (checkGroupG_strip (hpost _)).symm)

end Icontract
