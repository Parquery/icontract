/- What a bind in the `Res` monad yields and logs (`pure_bind'`, `bind_assoc'`, `bind_congr'`: the unprimed names
   are core's, for lawful monads). -/
import IcontractModel.Basic
namespace Icontract
namespace Res

theorem bind_eq (x : Res α) (f : α → Res β) :
    (x >>= f) = match x.out with
      | .error e => ⟨x.trace, .error e⟩
      | .ok a => ⟨x.trace ++ (f a).trace, (f a).out⟩ :=
  rfl

theorem bind_out_ok_iff {x : Res α} {f : α → Res β} {b : β} :
    (x >>= f).out = .ok b ↔ ∃ a, x.out = .ok a ∧ (f a).out = .ok b := by
  rw [bind_eq]
  cases h : x.out with
  | error e => simp
  | ok a => simp

theorem bind_out_error {x : Res α} {f : α → Res β} {e : Raised} :
    (x >>= f).out = .error e ↔ x.out = .error e ∨ ∃ a, x.out = .ok a ∧ (f a).out = .error e := by
  rw [bind_eq]
  cases h : x.out with
  | error e' => simp
  | ok a => simp

theorem mem_bind_trace {x : Res α} {f : α → Res β} {ev : Event} :
    ev ∈ (x >>= f).trace ↔ ev ∈ x.trace ∨ ∃ a, x.out = .ok a ∧ ev ∈ (f a).trace := by
  rw [bind_eq]
  cases h : x.out with
  | error e => simp
  | ok a => simp

theorem bind_trace_of_ok {x : Res α} {f : α → Res β} {a : α} (h : x.out = .ok a) :
    (x >>= f).trace = x.trace ++ (f a).trace := (bind_ok h).1

theorem bind_out_of_ok {x : Res α} {f : α → Res β} {a : α} (h : x.out = .ok a) :
    (x >>= f).out = (f a).out := (bind_ok h).2

@[simp] theorem pure_bind' {a : α} {f : α → Res β} : (Pure.pure a >>= f) = f a := rfl

@[simp] theorem raise_bind {e : Raised} {f : α → Res β} : (Res.raise e >>= f) = Res.raise e := rfl

theorem emit_bind {ev : Event} {f : Unit → Res β} :
    (Res.emit ev >>= f) = ⟨ev :: (f ()).trace, (f ()).out⟩ := rfl

theorem bind_trace_cases (x : Res α) (f : α → Res β) :
    (x >>= f).trace = x.trace ∨ ∃ a, x.out = .ok a ∧ (x >>= f).trace = x.trace ++ (f a).trace := by
  cases h : x.out with
  | error e => exact .inl (bind_err h).1
  | ok a => exact .inr ⟨a, rfl, bind_trace_of_ok h⟩

theorem forall_mem_bind_trace {x : Res α} {f : α → Res β} {P : Event → Prop} :
    (∀ ev ∈ (x >>= f).trace, P ev) ↔
      (∀ ev ∈ x.trace, P ev) ∧ ∀ a, x.out = .ok a → ∀ ev ∈ (f a).trace, P ev := by
  simp only [mem_bind_trace]
  exact ⟨fun h => ⟨fun ev he => h ev (.inl he), fun a ha ev he => h ev (.inr ⟨a, ha, he⟩)⟩,
    fun h ev he => he.elim (h.1 ev) fun ⟨a, ha, he⟩ => h.2 a ha ev he⟩

theorem bind_pure_trace {x : Res α} {g : α → β} :
    (x >>= fun a => (pure (g a) : Res β)).trace = x.trace := by
  rcases bind_trace_cases x fun a => (pure (g a) : Res β) with h | ⟨a, _, h⟩
  · exact h
  · rw [h]; exact List.append_nil _

theorem bind_assoc' (x : Res α) (f : α → Res β) (g : β → Res γ) :
    ((x >>= f) >>= g) = (x >>= fun a => f a >>= g) := by
  rw [bind_eq x, bind_eq x]
  cases x.out with
  | error e => rfl
  | ok a =>
    simp only []
    rw [bind_eq (f a), bind_eq]
    cases (f a).out with
    | error e => rfl
    | ok b => exact congrArg (Res.mk · _) (List.append_assoc ..)

theorem bind_congr' {x : Res α} {f g : α → Res β} (h : ∀ a, f a = g a) :
    (x >>= f) = (x >>= g) :=
  congrArg (x >>= ·) (funext h)

end Res
end Icontract
