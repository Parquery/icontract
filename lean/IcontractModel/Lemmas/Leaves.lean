/- The leaves of the wrapper, each unfolded here and nowhere else: the three selections of keyword arguments, `judge`,
   the four evaluators of a condition (an equation each; the two sync ones and the async one are instances of `EvalOK`,
   the invariants' one is the sync one on a plain contract), the building of the error, the body. -/
import IcontractModel.Spec.Dnf
import IcontractModel.Lemmas.Res
namespace Icontract
open Res

/-- `r` is one evaluation of the condition of `c`, yielding `not check`; `truthy` / `falsy`: what it answers.
`out_false` is an iff because acceptance is read back from the outcome (C01, C02); of `out_true` only this direction
is used (`det`); `shape` serves the claims about order and messages (Order.lean, C16). -/
structure EvalOK (truthy falsy : Bool) (c : Contract) (r : Res Bool) : Prop where
  out_false : r.out = .ok false ↔ truthy = true
  out_true : falsy = true → r.out = .ok true
  shape : (r.trace = [] ∧ ∃ e, r.out = .error e) ∨
    ∃ sel rest, r.trace = .cond c.id sel :: rest ∧ ∀ e ∈ rest, e = .awaitCond c.id ∨ e = .boolTest c.id

theorem EvalOK.forall_trace {t f : Bool} {c : Contract} {r : Res Bool} {P : Event → Prop} (h : EvalOK t f c r)
    (hc : ∀ sel, P (.cond c.id sel)) (ha : P (.awaitCond c.id)) (hb : P (.boolTest c.id)) :
    ∀ e ∈ r.trace, P e := by
  rcases h.shape with ⟨ht, _⟩ | ⟨sel, rest, ht, hr⟩ <;> rw [ht]
  · exact List.forall_mem_nil _
  · exact List.forall_mem_cons.mpr ⟨hc sel, fun e he => (hr e he).elim (· ▸ ha) (· ▸ hb)⟩

theorem EvalOK.checkOnly {t f : Bool} {c : Contract} {r : Res Bool} (h : EvalOK t f c r) :
    ∀ e ∈ r.trace, e.isCheck = true :=
  h.forall_trace (fun _ => rfl) rfl rfl

theorem EvalOK.det {t f : Bool} {c : Contract} {r : Res Bool} (h : EvalOK t f c r)
    (htot : t = true ∨ f = true) : r.out = .ok (!t) := by
  cases t with
  | true => exact h.out_false.mpr rfl
  | false => exact h.out_true (htot.resolve_left Bool.false_ne_true)

theorem selectConditionKwargs_eq (c : Contract) (kw : Kwargs) :
    selectConditionKwargs c kw =
      if (missingNames c.mandatory kw).isEmpty then pure (kw.restrict c.args)
      else Res.raise (.typeErr (.missingCondArgs c.id (missingNames c.mandatory kw))) :=
  rfl

theorem selectCaptureKwargs_eq (s : Snapshot) (kw : Kwargs) :
    selectCaptureKwargs s kw =
      if (missingNames s.args kw).isEmpty then pure (kw.restrict s.args)
      else Res.raise (.typeErr (.missingCaptureArgs s.id (missingNames s.args kw))) :=
  rfl

theorem selectErrorKwargs_eq (c : CId) (args : List String) (kw : Kwargs) :
    selectErrorKwargs c args kw =
      if (missingNames args kw).isEmpty then pure (kw.restrict args)
      else Res.raise (.typeErr (.missingErrorArgs c (missingNames args kw))) :=
  rfl

theorem judge_eq (c : Contract) (a : Ans) :
    judge c a = match a with
      | .val _ t => ⟨[.boolTest c.id], match t with
          | .truthy => .ok false
          | .falsy => .ok true
          | .raises e => .error (if e.isException then .valueErr (.negateFailed c.id) (some e) else .user e)⟩
      | .raises e => Res.raise (.user e)
      | .coro _ => pure false := by
  cases a with
  | raises e => rfl
  | coro a => rfl
  | val v t =>
    cases t with
    | truthy => rfl
    | falsy => rfl
    | raises e => exact emit_bind.trans (by simp only []; split <;> rfl)

theorem judge_out_false {c : Contract} {a : Ans} : (judge c a).out = .ok false ↔ ansTruthy a = true := by
  rw [judge_eq]
  cases a with
  | raises e => exact ⟨nofun, nofun⟩
  | coro a => exact ⟨fun _ => rfl, fun _ => rfl⟩
  | val v t =>
    cases t with
    | truthy => exact ⟨fun _ => rfl, fun _ => rfl⟩
    | falsy => exact ⟨nofun, nofun⟩
    | raises e => exact ⟨nofun, nofun⟩

theorem judge_out_true {c : Contract} {a : Ans} (h : ansFalsy a = true) : (judge c a).out = .ok true := by
  rw [judge_eq]
  cases a with
  | raises e => cases h
  | coro a => cases h
  | val v t =>
    cases t with
    | falsy => rfl
    | truthy => cases h
    | raises e => cases h

theorem judge_trace {c : Contract} {a : Ans} : ∀ e ∈ (judge c a).trace, e = .boolTest c.id := by
  rw [judge_eq]
  cases a with
  | raises e => exact List.forall_mem_nil _
  | coro a => exact List.forall_mem_nil _
  | val v t => exact fun e he => List.mem_singleton.mp he

theorem judge_error {c : Contract} {a : Ans} {r : Raised} (h : (judge c a).out = .error r) :
    (∃ e, a = .raises e ∧ r = .user e) ∨
    (∃ v e, a = .val v (.raises e) ∧
      ((e.isException = true ∧ r = .valueErr (.negateFailed c.id) (some e)) ∨
        (e.isException = false ∧ r = .user e))) := by
  rw [judge_eq] at h
  cases a with
  | raises e => exact .inl ⟨e, rfl, (Except.error.inj h).symm⟩
  | coro a => cases h
  | val v t =>
    cases t with
    | truthy => cases h
    | falsy => cases h
    | raises e =>
      refine .inr ⟨v, e, rfl, ?_⟩
      cases Except.error.inj h
      cases e.isException
      · exact .inr ⟨rfl, rfl⟩
      · exact .inl ⟨rfl, rfl⟩
theorem EvalOK.judged {c : Contract} {sel : Kwargs} {a : Ans} {aw : List Event}
    (haw : ∀ e ∈ aw, e = .awaitCond c.id) :
    EvalOK (ansTruthy a) (ansFalsy a) c ⟨.cond c.id sel :: (aw ++ (judge c a).trace), (judge c a).out⟩ :=
  ⟨judge_out_false, judge_out_true, .inr ⟨sel, _, rfl, fun e he =>
    (List.mem_append.mp he).imp (haw e) (judge_trace e)⟩⟩

theorem EvalOK.refused {c : Contract} {r : Res Bool} {e : Raised}
    (ht : r.trace = [] ∨ ∃ sel, r.trace = [.cond c.id sel]) (he : r.out = .error e) :
    EvalOK false false c r := by
  refine ⟨by simp [he], fun h => (by cases h),
    ht.imp (fun h => ⟨h, e, he⟩) fun ⟨sel, h⟩ => ⟨sel, [], h, ?_⟩⟩
  intro _ h; cases h

theorem evalPreSync_eq (o : Oracle) (kw : Kwargs) (c : Contract) :
    evalPreSync o kw c = selectConditionKwargs c kw >>= fun sel =>
      if c.coroFn then Res.raise (.valueErr (.coroFnCondOnSync c.id) none)
      else match o.cond c.id with
        | .coro _ => ⟨[.cond c.id sel], .error (.valueErr (.coroCondOnSync c.id) none)⟩
        | a => ⟨.cond c.id sel :: (judge c a).trace, (judge c a).out⟩ := by
  unfold evalPreSync
  refine bind_congr' fun sel => ?_
  cases c.coroFn with
  | true => rfl
  | false => exact emit_bind.trans (by cases o.cond c.id <;> rfl)

/-- the two sync evaluators differ only in which of the two refusals comes first -/
theorem evalPostSync_eq (o : Oracle) (kw : Kwargs) (c : Contract) :
    evalPostSync o kw c =
      if c.coroFn then Res.raise (.valueErr (.coroFnCondOnSync c.id) none) else evalPreSync o kw c := by
  unfold evalPostSync evalPreSync
  cases c.coroFn <;> rfl

/-- invariants are evaluated as sync preconditions that are no coroutine functions -/
theorem evalInvariant_eq (o : Oracle) (kw : Kwargs) (c : Contract) :
    evalInvariant o kw c = evalPreSync o kw { c with coroFn := false } :=
  rfl

theorem evalCondAsync_eq (o : Oracle) (kw : Kwargs) (c : Contract) :
    evalCondAsync o kw c = selectConditionKwargs c kw >>= fun sel =>
      if c.coroFn then ⟨.cond c.id sel :: (judge c (o.cond c.id)).trace, (judge c (o.cond c.id)).out⟩
      else match o.cond c.id with
        | .coro a => ⟨.cond c.id sel :: .awaitCond c.id :: (judge c a).trace, (judge c a).out⟩
        | a => ⟨.cond c.id sel :: (judge c a).trace, (judge c a).out⟩ := by
  unfold evalCondAsync
  refine bind_congr' fun sel => emit_bind.trans ?_
  cases c.coroFn with
  | true => rfl
  | false => cases o.cond c.id <;> rfl

theorem evalPreSync_evalOK (o : Oracle) (kw : Kwargs) (c : Contract) :
    EvalOK (condTruthy false o kw c) (condFalsy false o kw c) c (evalPreSync o kw c) := by
  rw [evalPreSync_eq, selectConditionKwargs_eq]
  unfold condTruthy condFalsy
  cases (missingNames c.mandatory kw).isEmpty with
  | false => exact .refused (.inl rfl) rfl
  | true =>
    rw [if_pos rfl, pure_bind']
    unfold finalAns
    cases c.coroFn with
    | true => exact .refused (.inl rfl) rfl
    | false =>
      cases o.cond c.id with
      | coro a => exact .refused (.inr ⟨_, rfl⟩) rfl
      | val v t => exact .judged (aw := []) (fun e h => by cases h)
      | raises e => exact .judged (a := .raises e) (aw := []) (fun e h => by cases h)

theorem evalPostSync_evalOK (o : Oracle) (kw : Kwargs) (c : Contract) :
    EvalOK (condTruthy false o kw c) (condFalsy false o kw c) c (evalPostSync o kw c) := by
  rw [evalPostSync_eq]
  cases hc : c.coroFn with
  | false => exact evalPreSync_evalOK o kw c
  | true =>
    unfold condTruthy condFalsy finalAns
    rw [hc]
    simp only [Bool.false_eq_true, if_false, if_true, Bool.and_false]
    exact .refused (.inl rfl) rfl

theorem evalCondAsync_evalOK (o : Oracle) (kw : Kwargs) (c : Contract) :
    EvalOK (condTruthy true o kw c) (condFalsy true o kw c) c (evalCondAsync o kw c) := by
  rw [evalCondAsync_eq, selectConditionKwargs_eq]
  unfold condTruthy condFalsy
  cases (missingNames c.mandatory kw).isEmpty with
  | false => exact .refused (.inl rfl) rfl
  | true =>
    rw [if_pos rfl, pure_bind']
    unfold finalAns
    cases c.coroFn with
    | true => exact .judged (aw := []) (fun e h => by cases h)
    | false =>
      cases o.cond c.id with
      | coro a => exact .judged (aw := [.awaitCond c.id]) (fun e h => List.mem_singleton.mp h)
      | val v t => exact .judged (aw := []) (fun e h => by cases h)
      | raises e => exact .judged (a := .raises e) (aw := []) (fun e h => by cases h)

theorem createViolationError_eq (o : Oracle) (c : Contract) (kw : Kwargs) :
    createViolationError o c kw =
      match c.err with
      | .none => ⟨[.msg c.id], match o.msg c.id with
          | .ok => .ok (.viol c.id true)
          | .raises e => .error (if e.isException then .runtimeErr c.id e else .user e)⟩
      | .fac args => selectErrorKwargs c.id args kw >>= fun sel => ⟨[.errFac c.id sel], match o.fac c.id with
          | .exc e => .ok (.user e)
          | .nonExc => .error (.typeErr (.factoryNotException c.id))
          | .raises e => .error (.user e)⟩
      | .cls subBase truthy =>
          if subBase then ⟨[.msg c.id], match o.msg c.id with
            | .ok => .ok (.viol c.id truthy)
            | .raises e => .error (.user e)⟩
          else Res.raise (.typeErr (.classNotException c.id))
      | .inst e => pure (.user e)
      | .other => Res.raise (.notImplemented c.id) := by
  unfold createViolationError
  cases c.err with
  | none =>
    refine emit_bind.trans ?_
    cases o.msg c.id with
    | ok => rfl
    | raises e => simp only []; split <;> rfl
  | fac args => exact bind_congr' fun sel => emit_bind.trans (by cases o.fac c.id <;> rfl)
  | cls subBase truthy =>
    cases subBase with
    | false => rfl
    | true => exact emit_bind.trans (by cases o.msg c.id <;> rfl)
  | inst e => rfl
  | other => rfl

theorem createViolationError_trace_cases (o : Oracle) (c : Contract) (kw : Kwargs) :
    (createViolationError o c kw).trace = [] ∨ (createViolationError o c kw).trace = [.msg c.id] ∨
      ∃ sel, (createViolationError o c kw).trace = [.errFac c.id sel] := by
  rw [createViolationError_eq]
  cases c.err with
  | none => exact .inr (.inl rfl)
  | fac args =>
    simp only [selectErrorKwargs_eq]
    cases (missingNames args kw).isEmpty with
    | false => exact .inl rfl
    | true => exact .inr (.inr ⟨_, rfl⟩)
  | cls subBase truthy =>
    cases subBase with
    | false => exact .inl rfl
    | true => exact .inr (.inl rfl)
  | inst e => exact .inl rfl
  | other => exact .inl rfl

theorem mem_createViolationError_trace {o : Oracle} {c : Contract} {kw : Kwargs} {e : Event}
    (h : e ∈ (createViolationError o c kw).trace) : e = .msg c.id ∨ ∃ sel, e = .errFac c.id sel := by
  rcases createViolationError_trace_cases o c kw with he | he | ⟨sel, he⟩ <;> rw [he] at h
  · cases h
  · exact .inl (List.mem_singleton.mp h)
  · exact .inr ⟨sel, List.mem_singleton.mp h⟩

theorem createViolationError_checkOnly {o : Oracle} {c : Contract} {kw : Kwargs} :
    ∀ e ∈ (createViolationError o c kw).trace, e.isCheck = true := by
  intro e h
  rcases mem_createViolationError_trace h with rfl | ⟨sel, rfl⟩ <;> rfl

theorem runBody_eq (o : Oracle) (call : Call) :
    runBody o call = ⟨[.body call.args call.kwargs],
      match o.body with | .ret v => .ok v | .raises e => .error (.user e)⟩ := by
  unfold runBody
  cases o.body <;> rfl

end Icontract
