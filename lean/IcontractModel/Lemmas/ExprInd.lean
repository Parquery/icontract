/-
  Induction over condition expressions with ONE motive: the sub-expressions that sit in lists, options and pairs are
  given by membership.  So a fact about a loop of the visitor is a lemma by induction on the list, with the fact about
  the elements as hypothesis, and only the fact about `Expr` itself needs the recursion through the nested type.
-/
import IcontractModel.Expr
namespace Icontract.Ex

/-- Where the parent unpacks a starred element (displays, positional arguments) the hypothesis covers the operand as
well: the fact about `*e` itself says nothing about `e`. -/
theorem Expr.ind {P : Expr → Prop}
    (const : ∀ i v, P (.const i v)) (name : ∀ i n, P (.name i n))
    (attr : ∀ i e a, P e → P (.attr i e a))
    (subscr : ∀ i e ix, P e → P ix → P (.subscr i e ix))
    (call : ∀ i f args, P f → (∀ a ∈ args, P a) → P (.call i f args))
    (unary : ∀ i op e, P e → P (.unary i op e))
    (bin : ∀ i op l r, P l → P r → P (.bin i op l r))
    (boolop : ∀ i isAnd es, (∀ e ∈ es, P e) → P (.boolop i isAnd es))
    (compare : ∀ i left rest, P left → (∀ p ∈ rest, P p.2) → P (.compare i left rest))
    (ifexp : ∀ i c t e, P c → P t → P e → P (.ifexp i c t e))
    (display : ∀ i es, (∀ e ∈ es, P e) → P (.display i es))
    (comp : ∀ i targets first inner, P first → (∀ e ∈ inner, P e) → P (.comp i targets first inner))
    (starred : ∀ i e, P e → P (.starred i e))
    (coll : ∀ i kind es, (∀ e ∈ es, P e ∧ ∀ j e', e = .starred j e' → P e') → P (.coll i kind es))
    (dict : ∀ i items, (∀ p ∈ items, (∀ k ∈ p.1, P k) ∧ P p.2) → P (.dict i items))
    (slice : ∀ i lo hi step, (∀ e ∈ lo, P e) → (∀ e ∈ hi, P e) → (∀ e ∈ step, P e) → P (.slice i lo hi step))
    (callkw : ∀ i f args kws, P f → (∀ a ∈ args, P a ∧ ∀ j a', a = .starred j a' → P a') → (∀ p ∈ kws, P p.2) →
      P (.callkw i f args kws))
    (fvalue : ∀ i e conv spec, P e → (∀ s ∈ spec, P s) → P (.fvalue i e conv spec))
    (fstring : ∀ i parts, (∀ e ∈ parts, P e) → P (.fstring i parts)) (e : Expr) : P e :=
  -- The motives of `Expr.rec` after the first: 2 `List Expr`, 3 `List (CmpOp × Expr)`, 4 `List (Option Expr × Expr)`,
  -- 5 `Option Expr`, 6 `List (Option String × Expr)`, 7-9 the three kinds of pair.  `motive_1` also holds `P e'` of a
  -- `.starred _ e'`, which is how motive 2 gets the operand of a starred element for `coll` / `callkw`.
  (Expr.rec (motive_1 := fun e => P e ∧ match e with | .starred _ e' => P e' | _ => True)
    (motive_2 := fun es => ∀ e ∈ es, P e ∧ ∀ j e', e = .starred j e' → P e')
    (motive_3 := fun l => ∀ p ∈ l, P p.2) (motive_4 := fun l => ∀ p ∈ l, (∀ k ∈ p.1, P k) ∧ P p.2)
    (motive_5 := fun o => ∀ e ∈ o, P e) (motive_6 := fun l => ∀ p ∈ l, P p.2) (motive_7 := fun p => P p.2)
    (motive_8 := fun p => (∀ k ∈ p.1, P k) ∧ P p.2) (motive_9 := fun p => P p.2)
    (fun i v => ⟨const i v, trivial⟩)
    (fun i n => ⟨name i n, trivial⟩)
    (fun i e a h => ⟨attr i e a h.1, trivial⟩)
    (fun i e ix h₁ h₂ => ⟨subscr i e ix h₁.1 h₂.1, trivial⟩)
    (fun i f args h₁ h₂ => ⟨call i f args h₁.1 (fun a ha => (h₂ a ha).1), trivial⟩)
    (fun i op e h => ⟨unary i op e h.1, trivial⟩)
    (fun i op l r h₁ h₂ => ⟨bin i op l r h₁.1 h₂.1, trivial⟩)
    (fun i isAnd es h => ⟨boolop i isAnd es (fun e he => (h e he).1), trivial⟩)
    (fun i left rest h₁ h₂ => ⟨compare i left rest h₁.1 h₂, trivial⟩)
    (fun i c t e h₁ h₂ h₃ => ⟨ifexp i c t e h₁.1 h₂.1 h₃.1, trivial⟩)
    (fun i es h => ⟨display i es (fun e he => (h e he).1), trivial⟩)
    (fun i targets first inner h₁ h₂ => ⟨comp i targets first inner h₁.1 (fun e he => (h₂ e he).1), trivial⟩)
    (fun i e h => ⟨starred i e h.1, h.1⟩)
    (fun i kind es h => ⟨coll i kind es h, trivial⟩)
    (fun i items h => ⟨dict i items h, trivial⟩)
    (fun i lo hi step h₁ h₂ h₃ => ⟨slice i lo hi step h₁ h₂ h₃, trivial⟩)
    (fun i f args kws h₁ h₂ h₃ => ⟨callkw i f args kws h₁.1 h₂ h₃, trivial⟩)
    (fun i e conv spec h₁ h₂ => ⟨fvalue i e conv spec h₁.1 h₂, trivial⟩)
    (fun i parts h => ⟨fstring i parts (fun e he => (h e he).1), trivial⟩)
    (List.forall_mem_nil _) (fun _ _ h t => List.forall_mem_cons.mpr ⟨⟨h.1, fun _ _ he => (he ▸ h).2⟩, t⟩)
    (List.forall_mem_nil _) (fun _ _ h t => List.forall_mem_cons.mpr ⟨h, t⟩)
    (List.forall_mem_nil _) (fun _ _ h t => List.forall_mem_cons.mpr ⟨h, t⟩)
    nofun (fun _ h _ he => Option.mem_some.mp he ▸ h.1)
    (List.forall_mem_nil _) (fun _ _ h t => List.forall_mem_cons.mpr ⟨h, t⟩)
    (fun _ _ h => h.1) (fun _ _ hk h => ⟨hk, h.1⟩) (fun _ _ h => h.1) e).1

/-- The second disjunct is, word for word, the side condition of the equations `f.eq_3` which Lean generates for the
last arm `e :: rest` (head not starred) of `visitElts`, `visitArgs`, `wfElts`, `pyEvalElts`. -/
theorem Expr.starred_or (e : Expr) : (∃ j e', e = .starred j e') ∨ ∀ j e', e = .starred j e' → False := by
  cases e with
  | starred j e' => exact .inl ⟨j, e', rfl⟩
  | _ => exact .inr fun _ _ h => Expr.noConfusion h

end Icontract.Ex
