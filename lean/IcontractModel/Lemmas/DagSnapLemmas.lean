/-
  Lemmas for the C08 inheritance theorem: class histories of arbitrary shape whose functions carry their own
  `@snapshot`s, built by `buildHistS` (Spec/DagHistorySnaps.lean).  Only the decorators of a fresh function differ from
  Lemmas/DagLemmas.lean (`declareFnS_spec`); the class statement is `dag_step`, read through a translation: the history
  without its snapshots (`LevelS.toLevel`, `ClassDefS.toDef`, with the `toDef_*` lemmas saying that it keeps bases,
  names and functions, and `HistWfS.toDef` that it keeps well-formedness), whose class table is that of the history.
-/
import IcontractModel.Lemmas.DagLemmas
import IcontractModel.Spec.DagHistorySnaps
namespace Icontract.Meta

theorem declareFnS_spec {w w' : World} {l : LevelS} (h : w.checker? l.f = none)
    (hd : declareFnS w l = .ok w') :
    Frame (· = l.f) w w' ∧ w'.snapNames = w.snapNames ∧
      FnSt w' l.f (ownGroups l.pre) l.snaps l.posts := by
  unfold declareFnS at hd
  obtain ⟨w2, h2, hd⟩ := Except.bind_eq_ok_iff.mp hd
  cases Except.ok.inj hd
  obtain ⟨d2, sp, nd⟩ := ((Decorated.start w l.f).ensures h l.posts).snapshots h l.snaps h2
  exact (d2.requires h l.pre).shows h sp nd

def LevelS.toLevel (l : LevelS) : ChainLevel := ⟨l.f, l.pre, l.posts⟩

def ClassDefS.toDef (d : ClassDefS) : ClassDef := ⟨d.bases, d.members.map (fun p => (p.1, p.2.toLevel))⟩

theorem toDef_ns (d : ClassDefS) :
    d.toDef.members.map (fun p => (p.1, Member.func p.2.f)) = d.members.map (fun p => (p.1, Member.func p.2.f)) := by
  simp only [ClassDefS.toDef, List.map_map]
  rfl

theorem toDef_keys (d : ClassDefS) : d.toDef.members.map (·.1) = d.members.map (·.1) := by
  simp only [ClassDefS.toDef, List.map_map]
  rfl

theorem toDef_fns (d : ClassDefS) : d.toDef.members.map (·.2.f) = d.members.map (·.2.f) := by
  simp only [ClassDefS.toDef, List.map_map]
  rfl

theorem mem_toDef {d : ClassDefS} {key : String} {l : LevelS} (h : (key, l) ∈ d.members) :
    (key, l.toLevel) ∈ d.toDef.members :=
  List.mem_map.mpr ⟨(key, l), h, rfl⟩

theorem declareAllS_spec {ms : List (String × LevelS)} {w w' : World}
    (hnd : (ms.map (·.2.f)).Nodup) (hnone : ∀ p ∈ ms, w.checker? p.2.f = none) (h : declareAllS w ms = .ok w') :
    Frame (fun f => f ∈ ms.map (·.2.f)) w w' ∧ w'.snapNames = w.snapNames ∧
    ∀ p ∈ ms, FnSt w' p.2.f (ownGroups p.2.pre) p.2.snaps p.2.posts :=
  foldlM_frames (μ := String × LevelS) (fn := fun p => p.2.f) (Pre := fun p w => w.checker? p.2.f = none)
    (Post := fun p w => FnSt w p.2.f (ownGroups p.2.pre) p.2.snaps p.2.posts) ms
    (fun _ _ _ _ _ _ hS fr sn => ⟨fun e => (fr.checkers _ hS).trans e, fun st => st.frame fr sn hS⟩)
    (fun _ _ _ _ hp e => declareFnS_spec hp e) hnd hnone h

theorem allLevels_map_toDef (ds : List ClassDefS) :
    (allLevels (ds.map ClassDefS.toDef)).map (·.f) = (allLevelsS ds).map (·.f) := by
  rw [allLevels_fns, List.flatMap_map]
  simp only [toDef_fns, allLevelsS, List.map_flatMap, List.map_map]
  rfl

theorem HistWfS.toDef {ds : List ClassDefS} (hwf : HistWfS ds) : HistWf (ds.map ClassDefS.toDef) := by
  refine ⟨by rw [allLevels_map_toDef]; exact hwf.1, fun i hi => ?_⟩
  obtain ⟨hk, hc, hb⟩ := hwf.2 i (by rw [← List.length_map (f := ClassDefS.toDef)]; exact hi)
  rw [List.getElem_map]
  exact ⟨by rw [toDef_keys]; exact hk, List.forall_mem_map.mpr hc, hb⟩

theorem buildHistS_inv (D : Decls) : ∀ (rest done : List ClassDefS) (w w' : World),
    DagInv D (done.map ClassDefS.toDef) w → HistWfS (done ++ rest) →
    (∀ d ∈ done ++ rest, ∀ p ∈ d.members,
      D.ownPre p.2.f = p.2.pre ∧ D.ownPosts p.2.f = p.2.posts ∧ D.ownSnaps p.2.f = p.2.snaps) →
    buildHistS w (done.length + 1) rest = .ok w' → DagInv D ((done ++ rest).map ClassDefS.toDef) w' := by
  intro rest
  induction rest with
  | nil =>
    intro done w w' inv _ _ h
    cases h
    rw [List.append_nil]
    exact inv
  | cons d rest ih =>
    intro done w w' inv hwf hD h
    obtain ⟨hk, hc, hb, hnd, hfresh⟩ := (List.map_append ▸ hwf.toDef).mid
    have hD1 := hD d (List.mem_append_right _ List.mem_cons_self)
    rw [List.append_cons] at hwf hD ⊢
    unfold buildHistS at h
    split at h
    · cases h
    · next w0 h0 =>
      split at h
      · cases h
      · next w1 h1 =>
        obtain ⟨fr01, sn01, hown⟩ := declareAllS_spec (toDef_fns d ▸ hnd)
          (fun p hp => inv.ckNone _ (hfresh _ (List.mem_map.mpr ⟨_, mem_toDef hp, rfl⟩))) h0
        rw [← List.length_map (f := ClassDefS.toDef), ← toDef_ns] at h1
        have inv1 := dag_step inv hfresh hnd hk hc hb
          (by rw [toDef_fns]; exact fr01) sn01
          (List.forall_mem_map.mpr (fun q hq => Own.of_eq (hown q hq) (hD1 q hq))) h1
        rw [← List.map_singleton, ← List.map_append] at inv1
        exact ih (done ++ [d]) w1 w' inv1 hwf hD (by rw [List.length_append]; exact h)

theorem declsOfS_own (ds : List ClassDefS) (hnd : ((allLevelsS ds).map (·.f)).Nodup) :
    ∀ d ∈ ds, ∀ p ∈ d.members, (declsOfS ds).ownPre p.2.f = p.2.pre ∧
      (declsOfS ds).ownPosts p.2.f = p.2.posts ∧ (declsOfS ds).ownSnaps p.2.f = p.2.snaps := by
  intro d hd p hp
  have hl : p.2 ∈ allLevelsS ds := List.mem_flatMap.mpr ⟨d, hd, List.mem_map.mpr ⟨p, hp, rfl⟩⟩
  simp only [declsOfS, find?_of_nodup_map LevelS.f p.2 (allLevelsS ds) hnd hl, and_self]

theorem buildHistS_observe {names : List (Nat × String)} {ds : List ClassDefS} (hwf : HistWfS ds) {w : World}
    (h : buildHistS { snapNames := names } 1 ds = .ok w) :
    ∀ i (hi : i < ds.length) (key : String) (l : LevelS), (key, l) ∈ (ds[i]).members →
      FnSt w l.f ((specPreAt w (declsOfS ds) (ds.length + 1) (i + 1) key 0).getD [])
        (specListAt w (declsOfS ds).ownSnaps (ds.length + 1) (i + 1) key 0)
        (specListAt w (declsOfS ds).ownPosts (ds.length + 1) (i + 1) key 0) := by
  have inv := buildHistS_inv (declsOfS ds) ds [] _ w (DagInv.empty rfl rfl) hwf (declsOfS_own ds hwf.1) h
  rw [List.nil_append] at inv
  intro i hi key l hl
  exact inv.ck i (by rw [List.length_map]; exact hi) key l.toLevel (by rw [List.getElem_map]; exact mem_toDef hl)
    (ds.length + 1) (Nat.succ_le_succ (Nat.le_of_lt hi))

end Icontract.Meta
