/- Evaluation order: which conditions are called, in which order, in which phase (used by C16). -/
import IcontractModel.Lemmas.Instances
namespace Icontract
open Res List

theorem condsCalled_append (a b : Trace) : condsCalled (a ++ b) = condsCalled a ++ condsCalled b :=
  List.filterMap_append

theorem condsCalled_nil : condsCalled [] = [] := rfl

section EvalOK
variable {t f : Bool} {c : Contract} {r : Res Bool} (h : EvalOK t f c r)
include h

theorem EvalOK.conds : condsCalled r.trace = [c.id] ∨ (condsCalled r.trace = [] ∧ ∃ e, r.out = .error e) := by
  rcases h.shape with ⟨ht, he⟩ | ⟨sel, rest, ht, hr⟩ <;> rw [ht]
  · exact .inr ⟨rfl, he⟩
  · refine .inl (congrArg (c.id :: ·) (List.filterMap_eq_nil_iff.mpr fun e he => ?_))
    rcases hr e he with rfl | rfl <;> rfl

theorem EvalOK.conds_of_ok {b : Bool} (hb : r.out = .ok b) : condsCalled r.trace = [c.id] :=
  h.conds.resolve_right fun ⟨_, e, he⟩ => by rw [hb] at he; cases he

theorem EvalOK.msgs : ∀ e ∈ r.trace, e.msgId = none :=
  h.forall_trace (fun _ => rfl) rfl rfl

end EvalOK

theorem createViolationError_conds {o : Oracle} {c : Contract} {kw : Kwargs} :
    condsCalled (createViolationError o c kw).trace = [] :=
  List.filterMap_eq_nil_iff.mpr fun e h => by
    rcases mem_createViolationError_trace h with rfl | ⟨sel, rfl⟩ <;> rfl

theorem createViolationError_msgs {o : Oracle} {c : Contract} {kw : Kwargs} :
    ((createViolationError o c kw).trace.filterMap Event.msgId).length ≤ 1 := by
  rcases createViolationError_trace_cases o c kw with he | he | ⟨sel, he⟩ <;> rw [he]
  · exact Nat.zero_le _
  · exact Nat.le_refl _
  · exact Nat.zero_le _

section Loops
variable {ev : Contract → Res Bool} {t f : Contract → Bool} (hev : ∀ c, EvalOK (t c) (f c) c (ev c))
include hev

theorem checkGroupG_conds_prefix (g : List Contract) :
    condsCalled (checkGroupG ev g).trace <+: g.map (·.id) := by
  induction g with
  | nil => exact List.nil_prefix
  | cons c cs ih =>
    rw [checkGroupG_cons, List.map_cons]
    rcases bind_trace_cases (ev c) _ with h | ⟨b, hb, h⟩ <;> rw [h]
    · rcases (hev c).conds with h | ⟨h, _⟩ <;> rw [h]
      · exact ⟨cs.map (·.id), rfl⟩
      · exact List.nil_prefix
    · rw [condsCalled_append, (hev c).conds_of_ok hb]
      cases b with
      | true => exact ⟨cs.map (·.id), rfl⟩
      | false => exact (List.prefix_cons_inj _).mpr ih

theorem assertPreAuxG_conds_sublist (groups : List (List Contract)) (last : Option Contract) :
    condsCalled (assertPreAuxG ev last groups).trace <+ groups.flatten.map (·.id) := by
  induction groups generalizing last with
  | nil => exact List.nil_sublist _
  | cons g gs ih =>
    rw [assertPreAuxG_cons, List.flatten_cons, List.map_append]
    have hg := (checkGroupG_conds_prefix hev g).sublist
    rcases bind_trace_cases (checkGroupG ev g) _ with h | ⟨r, _, h⟩ <;> rw [h]
    · exact hg.trans (List.sublist_append_left _ _)
    · rw [condsCalled_append]
      cases r with
      | none => exact List.Sublist.append hg (List.nil_sublist _)
      | some c => exact List.Sublist.append hg (ih (some c))

theorem checkGroupG_conds_det (pos : Contract → Bool) (g : List Contract)
    (hdet : ∀ c ∈ g, (ev c).out = .ok (!pos c)) :
    condsCalled (checkGroupG ev g).trace =
      (g.takeWhile pos ++ (g.find? fun c => !pos c).toList).map (·.id) := by
  induction g with
  | nil => rfl
  | cons c cs ih =>
    rw [List.forall_mem_cons] at hdet
    rw [checkGroupG_cons, bind_trace_of_ok hdet.1, condsCalled_append, (hev c).conds_of_ok hdet.1, List.takeWhile_cons,
      List.find?_cons]
    cases pos c with
    | false => rfl
    | true => exact congrArg (c.id :: ·) (ih hdet.2)

end Loops

theorem condsCalled_bind_errOf {x : Res (Option Contract)} {mk : Contract → Res Raised}
    (hmk : ∀ c, condsCalled (mk c).trace = []) :
    condsCalled (x >>= errOf mk).trace = condsCalled x.trace := by
  rcases bind_errOf_trace_cases x mk with h | ⟨c, _, h⟩ <;> rw [h]
  rw [condsCalled_append, hmk c, List.append_nil]

theorem msgs_bind_errOf {x : Res (Option Contract)} {mk : Contract → Res Raised}
    (hx : ∀ e ∈ x.trace, e.msgId = none) (hmk : ∀ c, ((mk c).trace.filterMap Event.msgId).length ≤ 1) :
    ((x >>= errOf mk).trace.filterMap Event.msgId).length ≤ 1 ∧
    ((x >>= errOf mk).out = .ok none → (x >>= errOf mk).trace.filterMap Event.msgId = []) := by
  have hx := List.filterMap_eq_nil_iff.mpr hx
  rcases bind_errOf_trace_cases x mk with h | ⟨c, hc, h⟩ <;> rw [h]
  · rw [hx]
    exact ⟨Nat.zero_le _, fun _ => rfl⟩
  · rw [List.filterMap_append, hx]
    refine ⟨hmk c, fun hn => ?_⟩
    rw [bind_errOf_out_none_iff.mp hn] at hc
    cases hc

section
variable {h : Hooks} {isAsync : Bool} (ok : HooksOK h isAsync) {ck : Checker} {call : Call}
include ok

theorem checkedG_phase_order :
    ∃ t1 t2 t3 t4, (checkedG h ck call).trace = t1 ++ t2 ++ t3 ++ t4 ∧
      (∀ e ∈ t1, e.isCheck = true) ∧ (∀ e ∈ t2, e.isCapture = true) ∧
      (∀ e ∈ t3, e.isBody = true) ∧ t3.length ≤ 1 ∧ (∀ e ∈ t4, e.isCheck = true) ∧
      condsCalled t1 <+ (ck.pre.flatten.map (·.id)) ∧
      condsCalled t4 <+: (ck.posts.map (·.id)) := by
  obtain ⟨t1, t2, t3, t4, ht, ⟨a1, c1⟩, a2, ⟨a3, l3⟩, ⟨a4, c4⟩, -⟩ := checkedG_phases h ck call
    (P1 := fun t => (∀ e ∈ t, e.isCheck = true) ∧ condsCalled t <+ ck.pre.flatten.map (·.id))
    (P2 := fun t => ∀ e ∈ t, e.isCapture = true)
    (P3 := fun t => (∀ e ∈ t, e.isBody = true) ∧ t.length ≤ 1)
    (P4 := fun t => (∀ e ∈ t, e.isCheck = true) ∧ condsCalled t <+: ck.posts.map (·.id))
    ⟨forall_mem_nil _, List.nil_sublist _⟩ (forall_mem_nil _) ⟨forall_mem_nil _, Nat.zero_le _⟩
    ⟨forall_mem_nil _, List.nil_prefix⟩
    ⟨prePhaseG_checkOnly ok, (condsCalled_bind_errOf fun _ => createViolationError_conds) ▸
      assertPreAuxG_conds_sublist (ok.pre _) ck.pre none⟩
    (capPhaseG_captureOnly ok)
    (by rw [runBody_eq]; exact ⟨fun e he => by cases List.mem_singleton.mp he; rfl, Nat.le_refl _⟩)
    fun kw r => ⟨postPhaseG_checkOnly ok, (condsCalled_bind_errOf fun _ => createViolationError_conds) ▸
      checkGroupG_conds_prefix (ok.post _) ck.posts⟩
  exact ⟨t1, t2, t3, t4, ht, a1, a2, a3, l3, a4, c1, c4⟩

/-- Only the building of an error logs a message, and an error of the precondition phase ends the run: the second
conjunct of `P1` (from that of `msgs_bind_errOf`) says the first segment has none when a later one is there. -/
theorem checkedG_msgs :
    ((checkedG h ck call).trace.filterMap Event.msgId).length ≤ 1 := by
  obtain ⟨t1, t2, t3, t4, ht, a1, a2, a3, a4, hacc | ⟨rfl, rfl, rfl⟩⟩ := checkedG_phases h ck call
    (P1 := fun t => (t.filterMap Event.msgId).length ≤ 1 ∧
      ((prePhaseG h ck call).out = .ok none → t.filterMap Event.msgId = []))
    (P2 := fun t => t.filterMap Event.msgId = []) (P3 := fun t => t.filterMap Event.msgId = [])
    (P4 := fun t => (t.filterMap Event.msgId).length ≤ 1)
    ⟨Nat.zero_le _, fun _ => rfl⟩ rfl rfl (Nat.zero_le _)
    (msgs_bind_errOf (assertPreAuxG_trace (fun c => (ok.pre _ c).msgs) ck.pre none)
      fun _ => createViolationError_msgs)
    (List.filterMap_eq_nil_iff.mpr fun e he => by
      cases e <;> first | rfl | cases capPhaseG_captureOnly ok _ he)
    (by rw [runBody_eq]; rfl)
    fun kw r => (msgs_bind_errOf (checkGroupG_trace (fun c => (ok.post _ c).msgs) ck.posts)
      fun _ => createViolationError_msgs).1
  · rw [ht, List.filterMap_append, List.filterMap_append, List.filterMap_append, a1.2 hacc, a2, a3]
    exact a4
  · rw [ht, List.append_nil, List.append_nil, List.append_nil]
    exact a1.1

end

end Icontract
