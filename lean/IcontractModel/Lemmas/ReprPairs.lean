/-
  The (key, value) pairs of a message (`reprPairs`): `keyLe` is a total preorder, so sorting distinct-keyed permutations
  gives the same list; the `addArguments` fold only appends representable pairs whose key is not shown yet.
-/
import IcontractModel.Represent
import IcontractModel.Lemmas.ListLemmas
namespace Icontract.Ex

theorem keyLe_trans (a b c : String × Val) : keyLe a b = true → keyLe b c = true → keyLe a c = true := by
  simp only [keyLe, decide_eq_true_eq]
  exact String.le_trans

theorem keyLe_total (a b : String × Val) : (keyLe a b || keyLe b a) = true := by
  simp only [keyLe, Bool.or_eq_true, decide_eq_true_eq]
  exact String.le_total _ _

theorem pairwise_mergeSort_keyLe (l : List (String × Val)) :
    (l.mergeSort keyLe).Pairwise (fun a b => keyLe a b = true) :=
  List.pairwise_mergeSort keyLe_trans keyLe_total l

theorem mergeSort_keyLe_eq_of_perm {l l' : List (String × Val)} (hp : l.Perm l')
    (hd : (l.map (·.1)).Nodup) : l.mergeSort keyLe = l'.mergeSort keyLe := by
  have hperm : (l.mergeSort keyLe).Perm (l'.mergeSort keyLe) :=
    (List.mergeSort_perm l keyLe).trans (hp.trans (List.mergeSort_perm l' keyLe).symm)
  refine List.Perm.eq_of_pairwise (le := fun a b => keyLe a b = true) ?_
    (pairwise_mergeSort_keyLe l) (pairwise_mergeSort_keyLe l') hperm
  intro a b ha hb hab hba
  simp only [keyLe, decide_eq_true_eq] at hab hba
  have ha' : a ∈ l := List.mem_mergeSort.mp ha
  have hb' : b ∈ l := hp.symm.subset (List.mem_mergeSort.mp hb)
  have hk : a.1 = b.1 := String.le_antisymm hab hba
  exact Meta.eq_of_nodup_map Prod.fst _ hd a b ha' hb' hk

theorem mem_selectKwargs {c : List String} {kw : List (String × Val)} {p : String × Val} :
    p ∈ selectKwargs c kw ↔
      p ∈ kw ∧ (p.1 = "_ARGS" → c.contains "_ARGS" = true) ∧ (p.1 = "_KWARGS" → c.contains "_KWARGS" = true) := by
  unfold selectKwargs
  rw [List.mem_filter]
  refine and_congr_right (fun _ => ?_)
  simp only [Bool.not_eq_true', Bool.or_eq_false_iff, Bool.and_eq_false_iff, beq_eq_false_iff_ne, ne_eq,
    Bool.not_eq_false', ← Decidable.imp_iff_not_or]

theorem selectKwargs_keys_nodup (c : List String) {kw : List (String × Val)}
    (hd : (kw.map (·.1)).Nodup) : ((selectKwargs c kw).map (·.1)).Nodup :=
  (List.filter_sublist.map _).nodup hd

/-- the fold step of `addArguments`: `addArguments m kw` is `(kw.mergeSort keyLe).foldl addStep m` by definition -/
def addStep (m : List (String × Val)) (p : String × Val) : List (String × Val) :=
  if m.any (fun q => q.1 == p.1) || !representable p.2 then m else m ++ [p]

theorem foldl_addStep_spec {xs m : List (String × Val)} :
    (∀ q ∈ m, q ∈ xs.foldl addStep m) ∧
    ∀ p ∈ xs.foldl addStep m, p ∈ m ∨ (p ∈ xs ∧ representable p.2 = true ∧ ∀ q ∈ m, q.1 ≠ p.1) :=
  List.foldlRecOn xs addStep
    (motive := fun t => (∀ q ∈ m, q ∈ t) ∧ ∀ p ∈ t, p ∈ m ∨ (p ∈ xs ∧ representable p.2 = true ∧ ∀ q ∈ m, q.1 ≠ p.1))
    ⟨fun _ h => h, fun _ h => .inl h⟩
    (fun t ⟨h1, h2⟩ x hx => by
      unfold addStep
      split
      · exact ⟨h1, h2⟩
      · next hc =>
        simp only [Bool.or_eq_true, List.any_eq_true, beq_iff_eq, Bool.not_eq_true', not_or, not_exists, not_and,
          Bool.not_eq_false] at hc
        refine ⟨fun q hq => List.mem_append_left _ (h1 q hq), fun p hp => ?_⟩
        rcases List.mem_append.mp hp with hp | hp
        · exact h2 p hp
        · obtain rfl := List.mem_singleton.mp hp
          exact .inr ⟨hx, hc.2, fun q hq => hc.1 q (h1 q hq)⟩)

theorem mem_addArguments {m kw : List (String × Val)} {p : String × Val} (h : p ∈ addArguments m kw) :
    p ∈ m ∨ (p ∈ kw ∧ representable p.2 = true ∧ ∀ q ∈ m, q.1 ≠ p.1) :=
  (foldl_addStep_spec.2 p h).imp_right (fun ⟨h1, h2⟩ => ⟨List.mem_mergeSort.mp h1, h2⟩)

theorem key_in_foldl_addStep : ∀ (xs m : List (String × Val)) (p : String × Val),
    p ∈ xs → representable p.2 = true → ∃ q ∈ xs.foldl addStep m, q.1 = p.1
  | [], _, _, h, _ => nomatch h
  | x :: xs, m, p, h, hr => by
    rw [List.foldl_cons]
    rcases List.mem_cons.mp h with rfl | h
    · -- `p` itself is folded in first: its key is there before, or `p` is appended; the rest of the fold keeps both
      have : ∃ q ∈ addStep m p, q.1 = p.1 := by
        unfold addStep
        split
        · next hc =>
          simp only [Bool.or_eq_true, List.any_eq_true, beq_iff_eq, Bool.not_eq_true', hr, Bool.true_eq_false,
            or_false] at hc
          exact hc
        · exact ⟨p, List.mem_append_right _ List.mem_cons_self, rfl⟩
      obtain ⟨q, hq, hk⟩ := this
      exact ⟨q, foldl_addStep_spec.1 q hq, hk⟩
    · exact key_in_foldl_addStep xs (addStep m x) p h hr

theorem key_in_addArguments {m kw : List (String × Val)} {p : String × Val} (h : p ∈ kw)
    (hr : representable p.2 = true) :
    ∃ q ∈ addArguments m kw, q.1 = p.1 :=
  key_in_foldl_addStep _ m p (List.mem_mergeSort.mpr h) hr

theorem mem_reprPairs {lines : List (String × Val)} {c : List String} {kw : List (String × Val)}
    {p : String × Val} (h : p ∈ reprPairs lines c kw) :
    p ∈ lines ∨ (p ∈ selectKwargs c kw ∧ representable p.2 = true ∧ ∀ q ∈ lines, q.1 ≠ p.1) :=
  mem_addArguments (List.mem_mergeSort.mp h)

end Icontract.Ex
