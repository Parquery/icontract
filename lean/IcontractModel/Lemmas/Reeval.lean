/-
  What the two inductions over `visit` (ReevalLog, ReevalMain) rest on: the visitor's monad `VRes` on the forms of
  input that occur in `visit`, the claim `LogIn` about the ids a visit logs, and, by counting, the split of the node
  ids into those outside and those inside comprehension scopes.
-/
import IcontractModel.Lemmas.ExprWf
namespace Icontract.Ex

theorem VRes.bind_def {α β} (x : VRes α) (f : α → VRes β) : x >>= f = VRes.bind x f := rfl
theorem VRes.pure_def {α} (a : α) : (pure a : VRes α) = VRes.ok a := rfl

@[simp] theorem VRes.pure_log {α} (a : α) : (pure a : VRes α).log = [] := rfl
@[simp] theorem VRes.pure_out {α} (a : α) : (pure a : VRes α).out = .ok a := rfl

theorem VRes.bind_of_ok {α β} {x : VRes α} {a : α} (h : x.out = .ok a) (f : α → VRes β) :
    x >>= f = ⟨x.log ++ (f a).log, (f a).out⟩ := by
  show VRes.bind x f = _
  unfold VRes.bind
  rw [h]

theorem VRes.bind_of_error {α β} {x : VRes α} {e : Exc} (h : x.out = .error e) (f : α → VRes β) :
    x >>= f = ⟨x.log, .error e⟩ := by
  show VRes.bind x f = _
  unfold VRes.bind
  rw [h]

theorem VRes.record_bind {β} (i : Nat) (v : Val) (f : Unit → VRes β) :
    VRes.record i v >>= f = ⟨(i, v) :: (f ()).log, (f ()).out⟩ :=
  rfl

theorem VRes.lift_ok_bind {α β} (a : α) (f : α → VRes β) :
    VRes.lift (.ok a) >>= f = f a :=
  rfl

theorem VRes.lift_error_bind {α β} (e : Exc) (f : α → VRes β) :
    (VRes.lift (.error e) : VRes α) >>= f = ⟨[], .error e⟩ :=
  rfl

theorem VRes.pure_bind {α β} (a : α) (f : α → VRes β) : (pure a : VRes α) >>= f = f a :=
  rfl

theorem VRes.mk_ok_bind {α β} (l : Log) (a : α) (f : α → VRes β) :
    (⟨l, .ok a⟩ : VRes α) >>= f = ⟨l ++ (f a).log, (f a).out⟩ :=
  VRes.bind_of_ok (x := ⟨l, .ok a⟩) rfl f

/-- all ids logged by `x` are in `S` -/
def LogIn {α} (x : VRes α) (S : List Nat) : Prop := ∀ p ∈ x.log, p.1 ∈ S

theorem LogIn.pure {α} {a : α} {S : List Nat} : LogIn (pure a : VRes α) S := by
  intro p hp; simp at hp

theorem LogIn.err {α} {e : Exc} {S : List Nat} : LogIn (VRes.err e : VRes α) S := by
  intro p hp; simp [VRes.err] at hp

theorem LogIn.lift {α} {x : Except Exc α} {S : List Nat} : LogIn (VRes.lift x) S := by
  intro p hp; simp [VRes.lift] at hp

theorem LogIn.record (i : Nat) (v : Val) {S : List Nat} (h : i ∈ S) : LogIn (VRes.record i v) S :=
  fun _ hp => List.mem_singleton.mp hp ▸ h

theorem LogIn.bind {α β} {x : VRes α} {f : α → VRes β} {S : List Nat}
    (hx : LogIn x S) (hf : ∀ a, LogIn (f a) S) : LogIn (x >>= f) S := by
  intro p hp
  cases h : x.out with
  | error e => rw [VRes.bind_of_error h] at hp; exact hx p hp
  | ok a =>
    rw [VRes.bind_of_ok h] at hp
    exact (List.mem_append.mp hp).elim (hx p) (hf a p)

theorem LogIn.ite {α} {c : Prop} [Decidable c] {x y : VRes α} {S : List Nat}
    (hx : LogIn x S) (hy : LogIn y S) : LogIn (if c then x else y) S := by
  split <;> assumption

theorem LogIn.record_pure {α} {i : Nat} {v : Val} {a : α} {S : List Nat} (h : i ∈ S) :
    LogIn (do VRes.record i v; Pure.pure a) S :=
  LogIn.bind (LogIn.record i v h) (fun _ => LogIn.pure)

theorem LogIn.lift_bind {α β} {x : Except Exc α} {f : α → VRes β} {S : List Nat} (hf : ∀ a, LogIn (f a) S) :
    LogIn (VRes.lift x >>= f) S :=
  LogIn.bind (LogIn.lift) hf

theorem LogIn.opt {α β} {f : Option α → VRes β} {S : List Nat} (hn : LogIn (f none) S)
    (hs : ∀ a, LogIn (f (some a)) S) : ∀ o, LogIn (f o) S
  | none => hn
  | some a => hs a

theorem count_split_cons {a i : Nat} {A O I : List Nat} (h : A.count a = O.count a + I.count a) :
    (i :: A).count a = (i :: O).count a + I.count a := by
  rw [List.count_cons, List.count_cons, h, Nat.add_right_comm]

theorem count_split_append {a : Nat} {A₁ O₁ I₁ A₂ O₂ I₂ : List Nat} (h₁ : A₁.count a = O₁.count a + I₁.count a)
    (h₂ : A₂.count a = O₂.count a + I₂.count a) : (A₁ ++ A₂).count a = (O₁ ++ O₂).count a + (I₁ ++ I₂).count a := by
  rw [List.count_append, List.count_append, List.count_append, h₁, h₂, Nat.add_add_add_comm]

/-- for a comprehension: its other parts go to the inner ids as a whole -/
theorem count_split_append_right {a : Nat} {A O I B : List Nat} (h : A.count a = O.count a + I.count a) :
    (A ++ B).count a = O.count a + (I ++ B).count a := by
  rw [List.count_append, List.count_append, h, Nat.add_assoc]

/- Here and in the files about `visit` and `collectLines`, a function defined by mutual recursion over `Expr` is opened
on a constructor by an explicit `unfold`, run first in every case (`cases e with unfold ..`): left to defeq, the kernel
unfolds the recursion once more when it checks the term, which costs more than checking the equation `unfold` uses. -/

mutual
theorem count_allIds (a : Nat) (e : Expr) : (allIds e).count a = (outerIds e).count a + (innerIds e).count a := by
  cases e with
    unfold allIds outerIds innerIds
  | const _ _ => exact (Nat.add_zero _).symm
  | name _ _ => exact (Nat.add_zero _).symm
  | attr _ e _ => exact count_split_cons (count_allIds a e)
  | subscr _ e ix => exact count_split_cons (count_split_append (count_allIds a e) (count_allIds a ix))
  | call _ f args => exact count_split_cons (count_split_append (count_allIds a f) (count_allIdsList a args))
  | unary _ _ e => exact count_split_cons (count_allIds a e)
  | bin _ _ l r => exact count_split_cons (count_split_append (count_allIds a l) (count_allIds a r))
  | boolop _ _ es => exact count_split_cons (count_allIdsList a es)
  | compare _ left rest => exact count_split_cons (count_split_append (count_allIds a left) (count_allIdsCmp a rest))
  | ifexp _ c t e =>
      exact count_split_cons
        (count_split_append (count_split_append (count_allIds a c) (count_allIds a t)) (count_allIds a e))
  | display _ es => exact count_split_cons (count_allIdsList a es)
  | comp _ _ first _ => exact count_split_cons (count_split_append_right (count_allIds a first))
  | starred _ e => exact count_split_cons (count_allIds a e)
  | coll _ _ es => exact count_split_cons (count_allIdsList a es)
  | dict _ items => exact count_split_cons (count_allIdsItems a items)
  | slice _ lo hi step =>
      exact count_split_cons
        (count_split_append (count_split_append (count_allIdsOpt a lo) (count_allIdsOpt a hi)) (count_allIdsOpt a step))
  | callkw _ f args kws =>
      exact count_split_cons
        (count_split_append (count_split_append (count_allIds a f) (count_allIdsList a args)) (count_allIdsKws a kws))
  | fvalue _ e _ spec => exact count_split_cons (count_split_append (count_allIds a e) (count_allIdsOpt a spec))
  | fstring _ parts => exact count_split_cons (count_allIdsList a parts)
theorem count_allIdsList (a : Nat) : ∀ es : List Expr,
    (allIdsList es).count a = (outerIdsList es).count a + (innerIdsList es).count a
  | [] => rfl
  | e :: rest => count_split_append (count_allIds a e) (count_allIdsList a rest)
theorem count_allIdsCmp (a : Nat) : ∀ es : List (CmpOp × Expr),
    (allIdsCmp es).count a = (outerIdsCmp es).count a + (innerIdsCmp es).count a
  | [] => rfl
  | (_, e) :: rest => count_split_append (count_allIds a e) (count_allIdsCmp a rest)
theorem count_allIdsItems (a : Nat) : ∀ es : List (Option Expr × Expr),
    (allIdsItems es).count a = (outerIdsItems es).count a + (innerIdsItems es).count a
  | [] => rfl
  | (k, e) :: rest =>
      count_split_append (count_split_append (count_allIdsOpt a k) (count_allIds a e)) (count_allIdsItems a rest)
theorem count_allIdsKws (a : Nat) : ∀ es : List (Option String × Expr),
    (allIdsKws es).count a = (outerIdsKws es).count a + (innerIdsKws es).count a
  | [] => rfl
  | (_, e) :: rest => count_split_append (count_allIds a e) (count_allIdsKws a rest)
theorem count_allIdsOpt (a : Nat) : ∀ o : Option Expr,
    (allIdsOpt o).count a = (outerIdsOpt o).count a + (innerIdsOpt o).count a
  | none => rfl
  | some e => count_allIds a e
end

theorem outer_not_inner {e : Expr} (hid : (allIds e).Nodup) {i : Nat} (ho : i ∈ outerIds e) : i ∉ innerIds e := by
  intro hi
  have h1 := List.nodup_iff_count.mp hid i
  rw [count_allIds] at h1
  exact absurd (Nat.le_trans (Nat.add_le_add (List.count_pos_iff.mpr ho) (List.count_pos_iff.mpr hi)) h1) (by decide)

end Icontract.Ex
