/-
  `kwargs_from_call` read back.  Each of its passes (`bindDefaults`, `bindPositionals`, `bindKeywords`) is a
  list of assignments made in order (`Kwargs.setAll`, Lemmas/Kwargs.lean), so what `Kwargs.get?` finds
  afterwards is a `kwLookup` in that list; shape of `sigParamNames` for ordered signatures.
-/
import IcontractModel.Spec.PyBind
import IcontractModel.Lemmas.Kwargs
import IcontractModel.Lemmas.ListLemmas
namespace Icontract
open List

theorem bindDefaults_eq (dfl : List (String × Id)) (kw : Kwargs) : bindDefaults dfl kw = kw.setAll dfl := by
  induction dfl generalizing kw with
  | nil => rfl
  | cons x rest ih => exact ih _

theorem bindPositionals_eq (names : List String) (args : List Id) (kw : Kwargs) :
    bindPositionals names args kw = kw.setAll (names.zip args) := by
  induction names generalizing args kw with
  | nil => rfl
  | cons p ps ih =>
    cases args with
    | nil => rfl
    | cons a as => exact ih as _

theorem bindKeywords_eq (posOnly : List String) (kwargs : List (String × Id)) (kw : Kwargs) :
    bindKeywords posOnly kwargs kw = kw.setAll (kwargs.filter fun p => !posOnly.contains p.1) := by
  induction kwargs generalizing kw with
  | nil => rfl
  | cons x rest ih =>
    obtain ⟨k, v⟩ := x
    unfold bindKeywords
    rw [List.filter_cons]
    cases posOnly.contains k with
    | true => exact ih kw
    | false => exact ih _

theorem zip_keys_sublist {names : List String} {args : List Id} :
    (names.zip args).map (·.1) <+ names := by
  induction names generalizing args with
  | nil => exact List.nil_sublist _
  | cons p ps ih =>
    cases args with
    | nil => exact List.nil_sublist _
    | cons a as => exact ih.cons_cons p

theorem sigKwdefaults_cons (q : Param) (rest : Signature) :
    sigKwdefaults (q :: rest) =
      (match q.default with
       | some d => (q.name, d) :: sigKwdefaults rest
       | none => sigKwdefaults rest) := by
  unfold sigKwdefaults
  cases h : q.default <;> simp [h]

theorem sigKwdefaults_keys_sublist (sig : Signature) :
    (sigKwdefaults sig).map (·.1) <+ sig.map (·.name) := by
  induction sig with
  | nil => exact List.nil_sublist _
  | cons q rest ih =>
    rw [sigKwdefaults_cons]
    cases q.default with
    | none => exact ih.cons _
    | some d => exact ih.cons_cons _

theorem kwLookup_sigKwdefaults {sig : Signature} {p : Param}
    (hnd : (sig.map (·.name)).Nodup) (hp : p ∈ sig) : kwLookup (sigKwdefaults sig) p.name = p.default := by
  induction sig with
  | nil => cases hp
  | cons q rest ih =>
    rw [List.map_cons, List.nodup_cons] at hnd
    rw [sigKwdefaults_cons]
    rcases List.mem_cons.mp hp with rfl | hpr
    · cases hd : p.default with
      | none => exact kwLookup_of_not_mem fun h => hnd.1 ((sigKwdefaults_keys_sublist rest).subset h)
      | some d => exact kwLookup_cons_self
    · have hne : q.name ≠ p.name := fun h => hnd.1 (h ▸ List.mem_map_of_mem hpr)
      cases q.default with
      | none => exact ih hnd.2 hpr
      | some d => exact (kwLookup_cons_ne hne).trans (ih hnd.2 hpr)

theorem name_mem_filter {sig : Signature} (hnd : (sig.map (·.name)).Nodup) {f : Param → Bool} {p : Param}
    (hp : p ∈ sig) : p.name ∈ (sig.filter f).map (·.name) ↔ f p = true := by
  constructor
  · intro h
    obtain ⟨q, hq, hqn⟩ := List.mem_map.mp h
    rw [List.mem_filter] at hq
    have := Meta.eq_of_nodup_map Param.name sig hnd q p hq.1 hp hqn
    exact this ▸ hq.2
  · intro h
    exact List.mem_map_of_mem (List.mem_filter.mpr ⟨hp, h⟩)

theorem filter_split_of_ordered {α : Type} {g h : α → Bool} (rank : α → Nat) (k : Nat)
    (hg : ∀ a, g a = true → rank a < k) (hh : ∀ a, h a = true → rank a = k) :
    ∀ l : List α, l.Pairwise (fun a b => rank a ≤ rank b) →
      l.filter (fun a => g a || h a) = l.filter g ++ l.filter h := by
  intro l hl
  induction hl with
  | nil => rfl
  | @cons a l ha _ ih =>
    rw [List.filter_cons, List.filter_cons (p := g), List.filter_cons (p := h), ih]
    cases hga : g a with
    | true =>
      have hha : h a = false := Bool.eq_false_iff.mpr fun hha => Nat.ne_of_lt (hg a hga) (hh a hha)
      simp only [hha, Bool.true_or, if_true, List.cons_append, Bool.false_eq_true, if_false]
    | false =>
      cases hha : h a with
      | false => simp only [Bool.or_self, Bool.false_eq_true, if_false]
      | true =>
        have : l.filter g = [] := List.filter_eq_nil_iff.mpr fun b hb hgb =>
          absurd (hg b hgb) (Nat.not_lt.mpr (hh a hha ▸ ha b hb))
        simp only [this, Bool.false_or, if_true, Bool.false_eq_true, if_false, List.nil_append]

theorem kindsOrdered_pairwise : ∀ sig : Signature, sig.kindsOrdered = true →
    sig.Pairwise (fun p q => p.kind.rank ≤ q.kind.rank)
  | [], _ => .nil
  | [_], _ => .cons (fun _ h => by cases h) .nil
  | p :: q :: rest, h => by
    simp only [Signature.kindsOrdered, Bool.and_eq_true, decide_eq_true_eq] at h
    have ih := kindsOrdered_pairwise (q :: rest) h.2
    refine .cons (fun r hr => ?_) ih
    rcases List.mem_cons.mp hr with rfl | hr
    · exact h.1
    · exact Nat.le_trans h.1 (List.rel_of_pairwise_cons ih hr)

theorem sigParamNames_eq {sig : Signature} (h : sig.kindsOrdered = true) :
    sigParamNames sig =
      sig.positional.map (·.name) ++ (sig.filter (fun p => p.kind == .varPos)).map (·.name) := by
  unfold sigParamNames Signature.positional
  -- 2 is the rank of `*args`: the positional kinds rank below it
  rw [← List.map_append, ← filter_split_of_ordered (fun p => p.kind.rank) 2
    (fun p => by unfold Param.isPositional; cases p.kind <;> decide)
    (fun p => by cases p.kind <;> decide) sig (kindsOrdered_pairwise sig h)]
  congr 2
  funext p
  unfold Param.isPositional
  cases p.kind <;> rfl

theorem sigParamNames_nodup {sig : Signature} (hnd : (sig.map (·.name)).Nodup) : (sigParamNames sig).Nodup :=
  List.Nodup.sublist (List.Sublist.map _ List.filter_sublist) hnd

/-- keyword, else positional, else default, else placeholder: the reverse of the order in which `kwargs_from_call`
writes them, since the last write wins -/
theorem resolveCall_get? {sig : Signature} {args : List Id} {kwargs : List (String × Id)} {p : Param}
    (hnd : (sig.map (·.name)).Nodup) (hkeys : (kwargs.map (·.1)).Nodup) (hp : p ∈ sig) :
    (resolveCall sig args kwargs).get? p.name =
      ((((if (sigPosOnly sig).contains p.name then none else kwLookup kwargs p.name).or
        (kwLookup ((sigParamNames sig).zip args) p.name)).or p.default).map Val.obj).or
      (Kwargs.get? [("_ARGS", .tuple args), ("_KWARGS", .dict kwargs)] p.name) := by
  unfold resolveCall kwargsFromCall
  rw [bindKeywords_eq, bindPositionals_eq, bindDefaults_eq,
    Kwargs.get?_setAll (hkeys.sublist (List.filter_sublist.map _)), kwLookup_filter,
    Kwargs.get?_setAll ((sigParamNames_nodup hnd).sublist zip_keys_sublist),
    Kwargs.get?_setAll (hnd.sublist (sigKwdefaults_keys_sublist sig)), kwLookup_sigKwdefaults hnd hp,
    ← Option.or_assoc, ← Option.map_or, ← Option.or_assoc, ← Option.map_or]

theorem resolveCall_get?_of_not_mem (sig : Signature) (args : List Id) (kwargs : List (String × Id)) (n : String)
    (h1 : ∀ p ∈ sig, p.name ≠ n) (h2 : ∀ kv ∈ kwargs, kv.1 ≠ n) :
    (resolveCall sig args kwargs).get? n =
      Kwargs.get? [("_ARGS", .tuple args), ("_KWARGS", .dict kwargs)] n := by
  have hsig : n ∉ sig.map (·.name) := List.forall_mem_ne'.mp (List.forall_mem_map.mpr h1)
  have hkw : n ∉ kwargs.map (·.1) := List.forall_mem_ne'.mp (List.forall_mem_map.mpr h2)
  have hnames : n ∉ sigParamNames sig := fun h => hsig ((List.filter_sublist.map _).subset h)
  unfold resolveCall kwargsFromCall
  rw [bindKeywords_eq, bindPositionals_eq, bindDefaults_eq,
    Kwargs.get?_setAll_of_not_mem fun h => hkw ((List.filter_sublist.map _).subset h),
    Kwargs.get?_setAll_of_not_mem fun h => hnames (zip_keys_sublist.subset h),
    Kwargs.get?_setAll_of_not_mem fun h => hsig ((sigKwdefaults_keys_sublist sig).subset h)]

theorem kwLookup_zip_positional (sig : Signature) (args : List Id) (p : Param)
    (hord : sig.kindsOrdered = true) (hp : p ∈ sig) (hpos : p.isPositional = true) :
    ∃ i, posIndex sig p.name = some i ∧ kwLookup ((sigParamNames sig).zip args) p.name = args[i]? := by
  have hmem : p.name ∈ sig.positional.map (·.name) :=
    List.mem_map_of_mem (List.mem_filter.mpr ⟨hp, hpos⟩)
  refine ⟨(sig.positional.map (·.name)).idxOf p.name, ?_, ?_⟩
  · exact if_pos (List.contains_iff_mem.mpr hmem)
  · rw [kwLookup_zip, sigParamNames_eq hord, List.idxOf_append, if_pos (List.mem_append_left _ hmem),
      if_pos hmem]

/-- No hypothesis on reserved names is needed: an accepted call gives every such parameter a value, which
overwrites whatever the placeholders put there. -/
theorem resolveCall_nonvariadic {sig : Signature} {args : List Id} {kwargs : List (String × Id)}
    (hwf : sig.wf = true) (hacc : pyAccepts sig args kwargs = true)
    {p : Param} (hp : p ∈ sig) (hnv : p.isVariadic = false) :
    (resolveCall sig args kwargs).get? p.name = (pyValue sig args kwargs p).map Val.obj ∧
    (pyValue sig args kwargs p).isSome = true := by
  simp only [Signature.wf, Bool.and_eq_true, decide_eq_true_eq] at hwf
  obtain ⟨⟨⟨⟨⟨hord, _⟩, _⟩, hnd⟩, _⟩, _⟩ := hwf
  simp only [pyAccepts, Bool.and_eq_true, decide_eq_true_eq] at hacc
  obtain ⟨⟨⟨_, hkeys⟩, hall⟩, hsome⟩ := hacc
  have hsome : (pyValue sig args kwargs p).isSome = true := by
    have := List.all_eq_true.mp hsome p hp
    simpa [hnv] using this
  refine ⟨?_, hsome⟩
  have hpo : (sigPosOnly sig).contains p.name = true ↔ p.kind = .posOnly := by
    rw [List.contains_iff_mem]
    unfold sigPosOnly
    rw [name_mem_filter hnd hp]
    simp
  -- Python reads positional first, the library writes the keyword last: the same, since `pyAccepts`
  -- rejects a keyword for a parameter that a positional argument has filled
  suffices hpy : pyValue sig args kwargs p =
      ((if (sigPosOnly sig).contains p.name then none else kwLookup kwargs p.name).or
        (kwLookup ((sigParamNames sig).zip args) p.name)).or p.default by
    rw [resolveCall_get? hnd hkeys hp, ← hpy, Option.or_of_isSome (by simpa using hsome)]
  unfold pyValue
  cases hk : p.kind with
  | varPos => simp [Param.isVariadic, hk] at hnv
  | varKw => simp [Param.isVariadic, hk] at hnv
  | posOnly =>
    obtain ⟨i, hidx, hlook⟩ := kwLookup_zip_positional sig args p hord hp (by simp [Param.isPositional, hk])
    rw [if_pos (hpo.mpr hk), hlook]
    simp only [hidx]
    exact getElem?_or
  | posOrKw =>
    obtain ⟨i, hidx, hlook⟩ := kwLookup_zip_positional sig args p hord hp (by simp [Param.isPositional, hk])
    rw [if_neg (fun h => by have := hpo.mp h; rw [hk] at this; cases this), hlook]
    simp only [hidx]
    cases hl : kwLookup kwargs p.name with
    | none => exact getElem?_or
    | some v =>
      have hthis := List.all_eq_true.mp hall _ (kwLookup_mem hl)
      have hfind : sig.find? (fun q => q.name == p.name && !q.isVariadic) = some p :=
        find?_of_nodup hnd hp (by simp [hnv]) fun q _ hq => by
          simp only [Bool.and_eq_true, beq_iff_eq] at hq
          exact hq.1
      simp only [hfind, hk, hidx, decide_eq_true_eq] at hthis
      rw [if_neg (Nat.not_lt.mpr hthis)]
      rfl
  | kwOnly =>
    have hnot : p.name ∉ sigParamNames sig := by
      unfold sigParamNames
      rw [name_mem_filter hnd hp]
      simp [hk]
    rw [if_neg (fun h => by have := hpo.mp h; rw [hk] at this; cases this), kwLookup_zip, if_neg hnot]
    cases kwLookup kwargs p.name <;> rfl

end Icontract
