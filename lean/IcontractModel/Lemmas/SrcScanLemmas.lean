/-
  The line scans of IcontractModel/SrcScan.lean: each of `findUp`, `findDown` returns an index iff it is
  the nearest stopping line in its direction, and `scan` succeeds iff both do.
-/
import IcontractModel.SrcScan
namespace Icontract.Src

theorem findUp_eq_some_iff (ks : List LineKind) (n s : Nat) :
    findUp ks n = some s ↔
      s ≤ n ∧ ks[s]? = some .deco ∧ ∀ i, s < i → i ≤ n → ks[i]? ≠ some .deco := by
  have hit : ∀ n, ks[n]? = some .deco →
      (n = s ↔ s ≤ n ∧ ks[s]? = some .deco ∧ ∀ i, s < i → i ≤ n → ks[i]? ≠ some .deco) := by
    intro n hn
    constructor
    · rintro rfl
      exact ⟨Nat.le_refl _, hn, fun i h1 h2 => absurd h1 (Nat.not_lt.2 h2)⟩
    · rintro ⟨hs, _, hno⟩
      rcases Nat.lt_or_eq_of_le hs with h | h
      · exact absurd hn (hno n h (Nat.le_refl _))
      · exact h.symm
  induction n with
  | zero =>
    rw [findUp]
    by_cases h0 : ks[0]? = some .deco
    · rw [if_pos h0, Option.some.injEq]
      exact hit 0 h0
    · rw [if_neg h0]
      constructor
      · nofun
      · rintro ⟨hs, hd, _⟩
        rw [Nat.le_zero.1 hs] at hd
        exact absurd hd h0
  | succ n ih =>
    rw [findUp]
    by_cases h0 : ks[n + 1]? = some .deco
    · rw [if_pos h0, Option.some.injEq]
      exact hit (n + 1) h0
    · rw [if_neg h0]
      refine ih.trans ⟨?_, ?_⟩
      · rintro ⟨hs, hd, hno⟩
        refine ⟨Nat.le_succ_of_le hs, hd, fun i h1 h2 => ?_⟩
        rcases Nat.lt_or_eq_of_le h2 with h | rfl
        · exact hno i h1 (Nat.le_of_lt_succ h)
        · exact h0
      · rintro ⟨hs, hd, hno⟩
        rcases Nat.lt_or_eq_of_le hs with h | rfl
        · exact ⟨Nat.le_of_lt_succ h, hd, fun i h1 h2 => hno i h1 (Nat.le_succ_of_le h2)⟩
        · exact absurd hd h0

/-- stated for `findDown` itself: `ks.drop i` is `ks[i]` followed by `ks.drop (i + 1)`, so the recursion of
`findDownAux` is an induction on the distance to the end of the file, with no shift of indices -/
theorem findDown_eq_some_iff (ks : List LineKind) (start e : Nat) :
    findDown ks start = some e ↔
      start ≤ e ∧ (ks[e]? = some .deco ∨ ks[e]? = some .defcls) ∧
      ∀ i, start ≤ i → i < e → ks[i]? ≠ some .deco ∧ ks[i]? ≠ some .defcls := by
  unfold findDown
  induction hn : ks.length - start generalizing start with
  | zero =>
    have hlen : ks.length ≤ start := Nat.le_of_sub_eq_zero hn
    rw [List.drop_eq_nil_of_le hlen, findDownAux]
    constructor
    · nofun
    · rintro ⟨hle, hstop, _⟩
      rw [List.getElem?_eq_none (Nat.le_trans hlen hle)] at hstop
      rcases hstop with h | h <;> cases h
  | succ n ih =>
    have hlt : start < ks.length := Nat.lt_of_sub_eq_succ hn
    have hks : ks[start]? = some ks[start] := List.getElem?_eq_getElem hlt
    rw [List.drop_eq_getElem_cons hlt, findDownAux]
    by_cases hk : ks[start] = .deco ∨ ks[start] = .defcls
    · rw [if_pos hk, Option.some.injEq]
      constructor
      · rintro rfl
        refine ⟨Nat.le_refl _, ?_, fun i h1 h2 => absurd h2 (Nat.not_lt.2 h1)⟩
        rw [hks]
        exact hk.imp (congrArg some) (congrArg some)
      · rintro ⟨hle, _, hno⟩
        rcases Nat.lt_or_eq_of_le hle with h | h
        · have hs := hno start (Nat.le_refl _) h
          rw [hks] at hs
          exact absurd (hk.imp (congrArg some) (congrArg some)) (not_or.2 hs)
        · exact h
    · rw [if_neg hk, ih (start + 1) (by rw [← Nat.sub_sub, hn]; rfl)]
      have hk' : ks[start]? ≠ some .deco ∧ ks[start]? ≠ some .defcls := by
        rw [hks]
        exact ⟨fun h => hk (.inl (Option.some.inj h)), fun h => hk (.inr (Option.some.inj h))⟩
      constructor
      · rintro ⟨hle, hstop, hno⟩
        refine ⟨Nat.le_of_succ_le hle, hstop, fun i h1 h2 => ?_⟩
        rcases Nat.lt_or_eq_of_le h1 with h | rfl
        · exact hno i h h2
        · exact hk'
      · rintro ⟨hle, hstop, hno⟩
        rcases Nat.lt_or_eq_of_le hle with h | rfl
        · exact ⟨h, hstop, fun i h1 h2 => hno i (Nat.le_of_succ_le h1) h2⟩
        · exact absurd hstop (not_or.2 hk')

theorem scan_eq_ok_iff (ks : List LineKind) (lineno s e : Nat) :
    scan ks lineno = .ok (s, e) ↔
      lineno < ks.length ∧ findUp ks lineno = some s ∧ findDown ks (lineno + 1) = some e := by
  unfold scan
  by_cases hlen : lineno ≥ ks.length
  · rw [if_pos hlen]
    exact ⟨nofun, fun h => absurd h.1 (Nat.not_lt.2 hlen)⟩
  · rw [if_neg hlen]
    cases findUp ks lineno with
    | none => exact ⟨nofun, fun h => nomatch h.2.1⟩
    | some s' =>
      cases findDown ks (lineno + 1) with
      | none => exact ⟨nofun, fun h => nomatch h.2.2⟩
      | some e' =>
        simp only [Except.ok.injEq, Prod.mk.injEq, Option.some.injEq, Nat.not_le.1 hlen, true_and]

end Icontract.Src
