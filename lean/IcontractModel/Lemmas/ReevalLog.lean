/-
  Every id the re-evaluator logs while visiting `e` is an id of a node of `e` - for arbitrary name tables, and also
  when the visit raises (the log is kept). Proved for any list `S` of ids that holds the ids of the nodes: in this
  form the claim passes to the parts of `e` as it stands.
-/
import IcontractModel.Lemmas.Reeval
import IcontractModel.Lemmas.ExprInd
namespace Icontract.Ex

/-- the claim of `visit_logInS` for one expression: what the loop lemmas assume of the elements -/
def VisitLogIn (ops : Ops) (bi : List (String × Val)) (S : List Nat) (e : Expr) : Prop :=
  ∀ tbl, (∀ i ∈ allIds e, i ∈ S) → LogIn (visit ops bi tbl e) S

section loops
variable {ops : Ops} {bi : List (String × Val)} {S : List Nat} {tbl : Tbl}

theorem visitElts_logInS {es : List Expr}
    (hel : ∀ e ∈ es, VisitLogIn ops bi S e ∧ ∀ j e', e = .starred j e' → VisitLogIn ops bi S e')
    (H : ∀ i ∈ allIdsList es, i ∈ S) : LogIn (visitElts ops bi tbl es) S := by
  induction es with
  | nil => unfold visitElts; exact LogIn.pure
  | cons e rest ih =>
    obtain ⟨he, hrest⟩ := List.forall_mem_cons.mp hel
    obtain ⟨H1, H2⟩ := List.forall_mem_append.mp H
    have ih := ih hrest H2
    rcases e.starred_or with ⟨j, e', rfl⟩ | hns
    · unfold visitElts
      exact LogIn.bind (he.2 j e' rfl tbl (List.forall_mem_cons.mp H1).2)
        (LogIn.opt (LogIn.bind ih fun vs => LogIn.pure) fun s =>
          LogIn.lift_bind fun xs => LogIn.bind ih fun vs => LogIn.pure)
    · -- `eq_3`: the arm `e :: rest` of the definition, for a head that is not starred (see `Expr.starred_or`)
      rw [visitElts.eq_3 _ _ _ _ _ hns]
      exact LogIn.bind (he.1 tbl H1) fun v => LogIn.bind ih fun vs => LogIn.pure

theorem visitArgs_logInS {es : List Expr}
    (hel : ∀ e ∈ es, VisitLogIn ops bi S e ∧ ∀ j e', e = .starred j e' → VisitLogIn ops bi S e')
    (H : ∀ i ∈ allIdsList es, i ∈ S) : LogIn (visitArgs ops bi tbl es) S := by
  induction es with
  | nil => unfold visitArgs; exact LogIn.pure
  | cons e rest ih =>
    obtain ⟨he, hrest⟩ := List.forall_mem_cons.mp hel
    obtain ⟨H1, H2⟩ := List.forall_mem_append.mp H
    have ih := ih hrest H2
    rcases e.starred_or with ⟨j, e', rfl⟩ | hns
    · unfold visitArgs
      exact LogIn.bind (he.2 j e' rfl tbl (List.forall_mem_cons.mp H1).2)
        (LogIn.opt LogIn.pure fun s => LogIn.lift_bind fun xs => LogIn.bind ih fun vs => LogIn.pure)
    · rw [visitArgs.eq_3 _ _ _ _ _ hns]
      exact LogIn.bind (he.1 tbl H1) fun v => LogIn.bind ih fun vs => LogIn.pure

theorem visitKws_logInS {kws : List (Option String × Expr)} (hel : ∀ p ∈ kws, VisitLogIn ops bi S p.2)
    {acc : List (String × Option Val)} (H : ∀ i ∈ allIdsKws kws, i ∈ S) : LogIn (visitKws ops bi tbl acc kws) S := by
  induction kws generalizing acc with
  | nil => unfold visitKws; exact LogIn.pure
  | cons p rest ih =>
    obtain ⟨k?, e⟩ := p
    obtain ⟨he, hrest⟩ := List.forall_mem_cons.mp hel
    obtain ⟨H1, H2⟩ := List.forall_mem_append.mp H
    cases k? with
    | some k =>
      unfold visitKws
      exact LogIn.bind (he tbl H1) (fun v => ih hrest H2)
    | none =>
      unfold visitKws
      exact LogIn.bind (he tbl H1) (LogIn.opt LogIn.err fun u => LogIn.lift_bind fun kvs => ih hrest H2)

theorem visitItems_logInS {items : List (Option Expr × Expr)}
    (hel : ∀ p ∈ items, (∀ k ∈ p.1, VisitLogIn ops bi S k) ∧ VisitLogIn ops bi S p.2) {d : Val} {ph : Bool}
    (H : ∀ i ∈ allIdsItems items, i ∈ S) : LogIn (visitItems ops bi tbl d ph items) S := by
  induction items generalizing d ph with
  | nil => unfold visitItems; exact LogIn.pure
  | cons p rest ih =>
    obtain ⟨k?, e⟩ := p
    obtain ⟨⟨hk, he⟩, hrest⟩ := List.forall_mem_cons.mp hel
    obtain ⟨H1, H2⟩ := List.forall_mem_append.mp H
    obtain ⟨Hk, He⟩ := List.forall_mem_append.mp H1
    cases k? with
    | none =>
      unfold visitItems
      exact LogIn.bind (he tbl He) (LogIn.opt (ih hrest H2) fun u => LogIn.lift_bind fun d' => ih hrest H2)
    | some k =>
      unfold visitItems
      refine LogIn.bind (he tbl He) (fun v? => LogIn.bind (hk k rfl tbl Hk) (fun k? => ?_))
      split
      · exact LogIn.lift_bind (fun d' => ih hrest H2)
      · exact ih hrest H2

theorem visitOpt_logInS {o : Option Expr} (hel : ∀ e ∈ o, VisitLogIn ops bi S e)
    (H : ∀ i ∈ allIdsOpt o, i ∈ S) : LogIn (visitOpt ops bi tbl o) S := by
  cases o with
  | none => unfold visitOpt; exact LogIn.pure
  | some e => exact hel e rfl tbl H

theorem visitList_logInS {es : List Expr} (hel : ∀ e ∈ es, VisitLogIn ops bi S e)
    (H : ∀ i ∈ allIdsList es, i ∈ S) : LogIn (visitList ops bi tbl es) S := by
  induction es with
  | nil => unfold visitList; exact LogIn.pure
  | cons e rest ih =>
    obtain ⟨he, hrest⟩ := List.forall_mem_cons.mp hel
    obtain ⟨H1, H2⟩ := List.forall_mem_append.mp H
    unfold visitList
    exact LogIn.bind (he tbl H1) (fun v => LogIn.bind (ih hrest H2) (fun vs => LogIn.pure))

theorem harvest_logInS {es : List Expr} (hel : ∀ e ∈ es, VisitLogIn ops bi S e)
    (H : ∀ i ∈ allIdsList es, i ∈ S) : LogIn (harvest ops bi tbl es) S := by
  induction es with
  | nil => unfold harvest; exact LogIn.pure
  | cons e rest ih =>
    obtain ⟨he, hrest⟩ := List.forall_mem_cons.mp hel
    obtain ⟨H1, H2⟩ := List.forall_mem_append.mp H
    unfold harvest
    exact fun p hp => (List.mem_append.mp hp).elim (he tbl H1 p) (ih hrest H2 p)

theorem visitBool_logInS {es : List Expr} (hel : ∀ e ∈ es, VisitLogIn ops bi S e) {isAnd hasPh : Bool}
    {last : Option Val} (H : ∀ i ∈ allIdsList es, i ∈ S) : LogIn (visitBool ops bi tbl isAnd hasPh last es) S := by
  induction es generalizing hasPh last with
  | nil => unfold visitBool; exact LogIn.pure
  | cons e rest ih =>
    obtain ⟨he, hrest⟩ := List.forall_mem_cons.mp hel
    obtain ⟨H1, H2⟩ := List.forall_mem_append.mp H
    unfold visitBool
    exact LogIn.bind (he tbl H1) (LogIn.opt (ih hrest H2) fun v =>
      LogIn.ite (ih hrest H2) (LogIn.ite (ih hrest H2) (LogIn.lift_bind fun b => LogIn.ite LogIn.pure (ih hrest H2))))

theorem visitCmp_logInS {es : List (CmpOp × Expr)} (hel : ∀ p ∈ es, VisitLogIn ops bi S p.2) {hasPh : Bool}
    {left result : Option Val} (H : ∀ i ∈ allIdsCmp es, i ∈ S) :
    LogIn (visitCmp ops bi tbl hasPh left result es) S := by
  induction es generalizing hasPh left result with
  | nil => unfold visitCmp; exact LogIn.pure
  | cons p rest ih =>
    obtain ⟨op, e⟩ := p
    obtain ⟨he, hrest⟩ := List.forall_mem_cons.mp hel
    obtain ⟨H1, H2⟩ := List.forall_mem_append.mp H
    unfold visitCmp
    refine LogIn.bind (he tbl H1) (fun c? => ?_)
    split
    · exact LogIn.lift_bind fun r =>
        LogIn.ite (ih hrest H2) (LogIn.lift_bind fun b => LogIn.ite LogIn.pure (ih hrest H2))
    · exact ih hrest H2

end loops

theorem visit_logInS {ops : Ops} {bi : List (String × Val)} {S : List Nat} (e : Expr) (tbl : Tbl)
    (H : ∀ i ∈ allIds e, i ∈ S) : LogIn (visit ops bi tbl e) S := by
  -- `unfold` in every case first: as noted in Lemmas/Reeval.lean
  induction e using Expr.ind generalizing tbl with
    unfold allIds at H
  | const i v =>
      unfold visit
      exact LogIn.record_pure (H i List.mem_cons_self)
  | name i n =>
      have hi := H i List.mem_cons_self
      unfold visit
      split
      · exact LogIn.record_pure hi
      · exact LogIn.pure
      · split
        · exact LogIn.record_pure hi
        · exact LogIn.pure
  | attr i e _ ih | unary i _ e ih =>
      obtain ⟨hi, H⟩ := List.forall_mem_cons.mp H
      unfold visit
      exact LogIn.bind (ih tbl H) (LogIn.opt LogIn.pure fun v => LogIn.lift_bind fun r => LogIn.record_pure hi)
  | subscr i l r ih1 ih2 | bin i _ l r ih1 ih2 =>
      obtain ⟨hi, H⟩ := List.forall_mem_cons.mp H
      obtain ⟨H1, H2⟩ := List.forall_mem_append.mp H
      unfold visit
      refine LogIn.bind (ih1 tbl H1) (fun v? => LogIn.bind (ih2 tbl H2) (fun k? => ?_))
      split
      · exact LogIn.lift_bind (fun r => LogIn.record_pure hi)
      · exact LogIn.pure
  | call i f args ihf ihargs =>
      obtain ⟨hi, H⟩ := List.forall_mem_cons.mp H
      obtain ⟨H1, H2⟩ := List.forall_mem_append.mp H
      unfold visit
      exact LogIn.bind (ihf tbl H1) (LogIn.opt LogIn.pure fun fv => LogIn.bind (visitList_logInS ihargs H2) fun avs =>
        LogIn.ite LogIn.pure (LogIn.lift_bind fun r => LogIn.record_pure hi))
  | boolop i isAnd es ih =>
      obtain ⟨hi, H⟩ := List.forall_mem_cons.mp H
      unfold visit
      exact LogIn.bind (visitBool_logInS ih H) (LogIn.opt LogIn.pure fun r => LogIn.record_pure hi)
  | compare i left rest ihl ihr =>
      obtain ⟨hi, H⟩ := List.forall_mem_cons.mp H
      obtain ⟨H1, H2⟩ := List.forall_mem_append.mp H
      unfold visit
      exact LogIn.bind (ihl tbl H1) fun l? => LogIn.bind (visitCmp_logInS ihr H2)
        (LogIn.opt LogIn.pure fun r => LogIn.record_pure hi)
  | ifexp i c t e ihc iht ihe =>
      obtain ⟨hi, H⟩ := List.forall_mem_cons.mp H
      obtain ⟨H12, H3⟩ := List.forall_mem_append.mp H
      obtain ⟨H1, H2⟩ := List.forall_mem_append.mp H12
      unfold visit
      exact LogIn.bind (ihc tbl H1) (LogIn.opt LogIn.pure fun cv => LogIn.lift_bind fun b =>
        LogIn.bind (LogIn.ite (iht tbl H2) (ihe tbl H3)) (LogIn.opt LogIn.pure fun r => LogIn.record_pure hi))
  | display i es ih =>
      obtain ⟨hi, H⟩ := List.forall_mem_cons.mp H
      unfold visit
      exact LogIn.bind (visitList_logInS ih H) fun vs => LogIn.ite LogIn.pure (LogIn.record_pure hi)
  | comp i targets first inner ihf ihi =>
      obtain ⟨hi, H⟩ := List.forall_mem_cons.mp H
      obtain ⟨H1, H2⟩ := List.forall_mem_append.mp H
      unfold visit
      exact LogIn.bind (x := ⟨(visit ops bi tbl first).log, .ok ()⟩) (ihf tbl H1) fun _ =>
        LogIn.bind (harvest_logInS ihi H2) fun _ =>
          LogIn.ite LogIn.pure (LogIn.lift_bind fun r => LogIn.record_pure hi)
  | starred i e _ =>
      unfold visit
      exact LogIn.err
  | coll i kind es ih =>
      obtain ⟨hi, H⟩ := List.forall_mem_cons.mp H
      unfold visit
      exact LogIn.bind (visitElts_logInS ih H) fun vs => LogIn.lift_bind fun r =>
        LogIn.ite LogIn.pure (LogIn.record_pure hi)
  | dict i items ih =>
      obtain ⟨hi, H⟩ := List.forall_mem_cons.mp H
      unfold visit
      exact LogIn.bind (visitItems_logInS ih H) fun x => LogIn.ite LogIn.pure (LogIn.record_pure hi)
  | slice i lo hi step ih1 ih2 ih3 =>
      obtain ⟨hk, H⟩ := List.forall_mem_cons.mp H
      obtain ⟨H12, H3⟩ := List.forall_mem_append.mp H
      obtain ⟨H1, H2⟩ := List.forall_mem_append.mp H12
      unfold visit
      refine LogIn.bind (visitOpt_logInS ih1 H1) (fun l? => LogIn.bind (visitOpt_logInS ih2 H2)
        (fun h? => LogIn.bind (visitOpt_logInS ih3 H3) (fun s? => ?_)))
      split
      · exact LogIn.record_pure hk
      · exact LogIn.pure
  | callkw i f args kws ihf iha ihk =>
      obtain ⟨hi, H⟩ := List.forall_mem_cons.mp H
      obtain ⟨H12, H3⟩ := List.forall_mem_append.mp H
      obtain ⟨H1, H2⟩ := List.forall_mem_append.mp H12
      unfold visit
      exact LogIn.bind (ihf tbl H1) (LogIn.opt LogIn.pure fun fv => LogIn.bind (visitArgs_logInS iha H2)
        (LogIn.opt LogIn.pure fun avs => LogIn.bind (visitKws_logInS ihk H3) fun kvs =>
          LogIn.ite LogIn.pure (LogIn.lift_bind fun r => LogIn.record_pure hi)))
  | fvalue i e conv spec ihe ihs =>
      obtain ⟨_, H⟩ := List.forall_mem_cons.mp H
      obtain ⟨H1, H2⟩ := List.forall_mem_append.mp H
      unfold visit
      refine LogIn.bind ?_ (fun sp? => LogIn.bind (ihe tbl H1) (fun v? => ?_))
      · cases spec with
        | none => exact LogIn.pure
        | some sp => exact LogIn.bind (ihs sp rfl tbl H2) (fun _ => LogIn.pure)
      · split
        · exact LogIn.lift_bind (fun r => LogIn.pure)
        · exact LogIn.pure
  | fstring i parts ih =>
      obtain ⟨hi, H⟩ := List.forall_mem_cons.mp H
      unfold visit
      exact LogIn.bind (visitList_logInS ih H) fun vs =>
        LogIn.ite LogIn.pure (LogIn.lift_bind fun r => LogIn.record_pure hi)

theorem visit_logIn (ops : Ops) (bi : List (String × Val)) :
    ∀ (tbl : Tbl) (e : Expr), LogIn (visit ops bi tbl e) (allIds e) :=
  fun tbl e => visit_logInS e tbl (fun _ h => h)

theorem visitElts_logIn (ops : Ops) (bi : List (String × Val)) : ∀ (tbl : Tbl) (es : List Expr),
    LogIn (visitElts ops bi tbl es) (allIdsList es) :=
  fun _ _ =>
    visitElts_logInS (fun e _ => ⟨visit_logInS e, fun _ e' _ => visit_logInS e'⟩) (fun _ h => h)

theorem visitArgs_logIn (ops : Ops) (bi : List (String × Val)) : ∀ (tbl : Tbl) (es : List Expr),
    LogIn (visitArgs ops bi tbl es) (allIdsList es) :=
  fun _ _ =>
    visitArgs_logInS (fun e _ => ⟨visit_logInS e, fun _ e' _ => visit_logInS e'⟩) (fun _ h => h)

theorem visitKws_logIn (ops : Ops) (bi : List (String × Val)) : ∀ (tbl : Tbl) (acc : List (String × Option Val))
    (kws : List (Option String × Expr)), LogIn (visitKws ops bi tbl acc kws) (allIdsKws kws) :=
  fun _ _ _ => visitKws_logInS (fun p _ => visit_logInS p.2) (fun _ h => h)

theorem visitItems_logIn (ops : Ops) (bi : List (String × Val)) : ∀ (tbl : Tbl) (d : Val) (ph : Bool)
    (items : List (Option Expr × Expr)), LogIn (visitItems ops bi tbl d ph items) (allIdsItems items) :=
  fun _ _ _ _ =>
    visitItems_logInS (fun p _ => ⟨fun k _ => visit_logInS k, visit_logInS p.2⟩) (fun _ h => h)

theorem visitOpt_logIn (ops : Ops) (bi : List (String × Val)) : ∀ (tbl : Tbl) (o : Option Expr),
    LogIn (visitOpt ops bi tbl o) (allIdsOpt o) :=
  fun _ _ => visitOpt_logInS (fun e _ => visit_logInS e) (fun _ h => h)

theorem visitList_logIn (ops : Ops) (bi : List (String × Val)) : ∀ (tbl : Tbl) (es : List Expr),
    LogIn (visitList ops bi tbl es) (allIdsList es) :=
  fun _ _ => visitList_logInS (fun e _ => visit_logInS e) (fun _ h => h)

theorem harvest_logIn (ops : Ops) (bi : List (String × Val)) : ∀ (tbl : Tbl) (es : List Expr),
    LogIn (harvest ops bi tbl es) (allIdsList es) :=
  fun _ _ => harvest_logInS (fun e _ => visit_logInS e) (fun _ h => h)

theorem visitBool_logIn (ops : Ops) (bi : List (String × Val)) : ∀ (tbl : Tbl) (isAnd hasPh : Bool) (last : Option Val)
    (es : List Expr), LogIn (visitBool ops bi tbl isAnd hasPh last es) (allIdsList es) :=
  fun _ _ _ _ _ => visitBool_logInS (fun e _ => visit_logInS e) (fun _ h => h)

theorem visitCmp_logIn (ops : Ops) (bi : List (String × Val)) : ∀ (tbl : Tbl) (hasPh : Bool) (left result : Option Val)
    (es : List (CmpOp × Expr)), LogIn (visitCmp ops bi tbl hasPh left result es) (allIdsCmp es) :=
  fun _ _ _ _ _ => visitCmp_logInS (fun p _ => visit_logInS p.2) (fun _ h => h)

end Icontract.Ex
