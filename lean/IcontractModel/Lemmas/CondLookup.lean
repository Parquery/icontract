/-
  The look-up of the condition's own variables (`condLookup`): what a name means in it, and in the table of a call.
-/
import IcontractModel.Lemmas.Lookup
namespace Icontract.Ex

theorem lookup_filter_key (p : String → Bool) (l : List (String × Val)) (n : String) :
    lookup (l.filter (fun x => p x.1)) n = if p n then lookup l n else none := by
  -- on an entry with key `n` the filter's test is `p n`
  have key : ∀ a : String × Val, decide (p a.1 = true ∧ (a.1 == n) = true) = (p n && a.1 == n) := fun a => by
    by_cases ha : a.1 == n
    · rw [eq_of_beq ha, Bool.decide_and, Bool.decide_eq_true, Bool.decide_eq_true]
    · rw [Bool.eq_false_iff.mpr ha]; simp
  simp only [lookup_eq_find?, List.find?_filter, key]
  cases p n <;> simp

/-- the defaults of the parameters which `own` does not bind -/
def condDefaults (own : List (String × Val)) (params : List CondParam) : List (String × Val) :=
  params.filterMap (fun q =>
    match q.2 with
    | some d => if (lookup own q.1).isSome then none else some (q.1, d)
    | none => none)

theorem condLookup_eq (params : List CondParam) (kwargs : List (String × Val)) :
    condLookup params kwargs =
      kwargs.filter (fun p => params.any (fun q => q.1 == p.1)) ++
        condDefaults (kwargs.filter (fun p => params.any (fun q => q.1 == p.1))) params := rfl

theorem lookup_condDefaults_cons (own : List (String × Val)) (k n : String) (d? : Option Val) (ps : List CondParam) :
    lookup (condDefaults own ((k, d?) :: ps)) n =
      (if (k == n && !(lookup own k).isSome) = true then d? else none).or (lookup (condDefaults own ps) n) := by
  cases d? with
  | none => cases k == n && !(lookup own k).isSome <;> rfl
  | some d =>
    unfold condDefaults
    rw [List.filterMap_cons]
    cases (lookup own k).isSome with
    | true => rw [Bool.not_true, Bool.and_false]; rfl
    | false =>
      rw [Bool.not_false, Bool.and_true]
      show (if k == n then some d else _) = _
      cases k == n <;> rfl

theorem lookup_condDefaults_none (own : List (String × Val)) (params : List CondParam) (n : String)
    (h : ∀ q ∈ params, q.1 ≠ n) : lookup (condDefaults own params) n = none := by
  induction params with
  | nil => rfl
  | cons q ps ih =>
    rw [lookup_condDefaults_cons, Bool.eq_false_iff.mpr fun hk => h q List.mem_cons_self (eq_of_beq hk),
      ih fun q hq => h q (List.mem_cons_of_mem _ hq)]
    rfl

theorem lookup_condDefaults (own : List (String × Val)) (params : List CondParam) (n : String)
    (hnodup : (params.map (·.1)).Nodup) :
    lookup (condDefaults own params) n =
      (params.find? (fun q => q.1 == n)).bind (fun q => if (lookup own n).isSome then none else q.2) := by
  induction params with
  | nil => rfl
  | cons q ps ih =>
    obtain ⟨k, d?⟩ := q
    rw [List.map_cons, List.nodup_cons] at hnodup
    rw [lookup_condDefaults_cons, List.find?_cons]
    by_cases hk : (k == n) = true
    · -- the parameter itself: no later one has its name
      obtain rfl := eq_of_beq hk
      rw [hk, lookup_condDefaults_none own ps k fun q hq he => hnodup.1 (List.mem_map.mpr ⟨q, hq, he⟩),
        Option.or_none]
      cases (lookup own k).isSome <;> rfl
    · rw [Bool.eq_false_iff.mpr hk]
      exact ih hnodup.2

theorem find?_none_of_all_ne (params : List CondParam) (n : String) (h : ∀ q ∈ params, q.1 ≠ n) :
    params.find? (fun q => q.1 == n) = none := by
  rw [List.find?_eq_none]
  intro q hq
  simpa using h q hq

theorem lookup_condLookup_foreign (params : List CondParam) (kwargs : List (String × Val)) (n : String)
    (h : ∀ q ∈ params, q.1 ≠ n) : lookup (condLookup params kwargs) n = none := by
  rw [condLookup_eq, lookup_append, lookup_filter_key (fun k => params.any (fun q => q.1 == k)) kwargs n,
    ← List.isSome_find?, find?_none_of_all_ne params n h, lookup_condDefaults_none _ params n h]
  rfl

theorem lookup_condLookup (params : List CondParam) (kwargs : List (String × Val)) (n : String)
    (hnodup : (params.map (·.1)).Nodup) :
    lookup (condLookup params kwargs) n =
      (params.find? (fun q => q.1 == n)).bind (fun q => (lookup kwargs n).or q.2) := by
  rw [condLookup_eq, lookup_append, lookup_condDefaults _ params n hnodup,
    lookup_filter_key (fun k => params.any (fun q => q.1 == k)) kwargs n, ← List.isSome_find?]
  cases params.find? (fun q => q.1 == n) with
  | none => rfl
  | some q => cases lookup kwargs n <;> rfl

theorem lookupT_ofCall (params : List CondParam) (kwargs closure globals : List (String × Val)) (n : String) :
    lookupT (Tbl.ofCall params kwargs closure globals) n =
      (((lookup (condLookup params kwargs) n).or ((lookup closure n).or (lookup globals n)))).map some := by
  rw [Tbl.ofCall, Tbl.ofLookups_eq, lookupT_addLookup, pyScope, List.flatten_cons, List.flatten_cons,
    List.flatten_cons, List.flatten_nil, List.append_nil, lookup_append, lookup_append]
  exact Option.none_or

end Icontract.Ex
