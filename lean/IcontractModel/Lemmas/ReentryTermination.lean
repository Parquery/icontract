/-
  Termination: contracts add no divergence.  `Program.rk r a` (the chain "body of `a` calls
  `b` whose body calls ..." is shorter than `r`) is a rank that does not mention `run`.  When every
  action has rank `n`, every evaluation of the contracted program finishes within a depth that depends
  on the program only (`terminate_of_rk`, by lexicographic induction: number of keys of a finite
  universe not yet in progress, rank); in a program without contracts an action that finishes within
  depth `k` has rank `k` (`rk_of_nt`).  C10 uses the rank of a program through its stripped copy
  (`rk_of_bare`, `bare_of_rk`) and the rank 2 of a program whose bodies make no calls
  (`rk_two_of_no_calls`).
-/
import IcontractModel.Lemmas.ReentryRun
import IcontractModel.Spec.Bare
namespace Icontract.Re

/-- the evaluation finishes within recursion depth `n` -/
def NT (p : Program) (n : Nat) (st : St) (cmd : Cmd) : Prop :=
  (run p .repaired n st cmd).2 ≠ .timeout

theorem NT.mono {p : Program} {n m : Nat} {st : St} {cmd : Cmd} (h : NT p n st cmd) (hnm : n ≤ m) :
    NT p m st cmd := by
  unfold NT; rw [run_fuel_mono_le hnm h]; exact h

theorem andThen_nt {r : St × Out} {k : St → St × Out} (h1 : r.2 ≠ .timeout)
    (h2 : (k r.1).2 ≠ .timeout) : (andThen r k).2 ≠ .timeout :=
  andThen_cases (Q := fun x => x.2 ≠ .timeout) (fun _ => h2) (fun _ => h1)

/-- the key that the wrapper reached by the action tests / adds -/
def Action.key : Action → Key
  | .callFn f => .fn f
  | .callMethod i _ => .inst i
  | .construct i => .inst i
  | .superInit i _ => .inst i

/-- the actions of the body that an action runs (for a constructor call: the `__init__` it delegates to) -/
def Program.bodyOf (p : Program) : Action → List Action
  | .callFn f => match p.fn? f with
    | none => []
    | some d => d.body.actions
  | .callMethod i m => match p.meth? i m with
    | none => []
    | some x => x.2.body.actions
  | .construct i => [.superInit i (p.clsOf i)]
  | .superInit _ cid => match p.cls? cid with
    | none => []
    | some c => c.init.actions

/-- every chain of bodies calling actions that starts at the action is shorter than `r` -/
def Program.rk (p : Program) : Nat → Action → Prop
  | 0, _ => False
  | r + 1, a => ∀ b ∈ p.bodyOf a, p.rk r b

theorem rk_mono_le {p : Program} {r r' : Nat} {a : Action} (h : p.rk r a) (hr : r ≤ r') : p.rk r' a := by
  induction r generalizing r' a with
  | zero => exact h.elim
  | succ r ih =>
    cases r' with
    | zero => exact absurd hr (Nat.not_succ_le_zero r)
    | succ r' => exact fun b hb => ih (h b hb) (Nat.le_of_succ_le_succ hr)

theorem bodyOf_callFn_none {p : Program} {f : FnId} (h : p.fn? f = none) : p.bodyOf (.callFn f) = [] := by
  simp only [Program.bodyOf, h]

theorem bodyOf_callFn {p : Program} {f : FnId} {d : FnDecl} (h : p.fn? f = some d) :
    p.bodyOf (.callFn f) = d.body.actions := by
  simp only [Program.bodyOf, h]

theorem bodyOf_callMethod_none {p : Program} {i m} (h : p.meth? i m = none) :
    p.bodyOf (.callMethod i m) = [] := by
  simp only [Program.bodyOf, h]

theorem bodyOf_callMethod {p : Program} {i m c md} (h : p.meth? i m = some (c, md)) :
    p.bodyOf (.callMethod i m) = md.body.actions := by
  simp only [Program.bodyOf, h]

theorem bodyOf_construct (p : Program) (i : InstId) :
    p.bodyOf (.construct i) = [.superInit i (p.clsOf i)] := rfl

theorem bodyOf_superInit_none {p : Program} {i cid} (h : p.cls? cid = none) :
    p.bodyOf (.superInit i cid) = [] := by
  simp only [Program.bodyOf, h]

theorem bodyOf_superInit {p : Program} {i cid c} (h : p.cls? cid = some c) :
    p.bodyOf (.superInit i cid) = c.init.actions := by
  simp only [Program.bodyOf, h]

theorem rk_succ_iff {p : Program} {a : Action} {as : List Action} (h : p.bodyOf a = as) {r : Nat} :
    p.rk (r + 1) a ↔ ∀ b ∈ as, p.rk r b :=
  h ▸ Iff.rfl

theorem rk_succ_construct {p : Program} {i : InstId} {r : Nat} :
    p.rk (r + 1) (.construct i) ↔ p.rk r (.superInit i (p.clsOf i)) :=
  (rk_succ_iff (bodyOf_construct p i)).trans List.forall_mem_singleton

theorem rk_succ_of_bodyOf_nil {p : Program} {a : Action} (h : p.bodyOf a = []) {r : Nat} : p.rk (r + 1) a :=
  (rk_succ_iff h).2 fun _ hb => absurd hb List.not_mem_nil

theorem invsOf_cases {motive : List Script → Prop} (p : Program) (i : InstId) (nil : motive [])
    (cls : ∀ c ∈ p.classes, motive c.invs) : motive (((p.cls? (p.clsOf i)).map (·.invs)).getD []) := by
  cases h : p.cls? (p.clsOf i) with
  | none => exact nil
  | some c => exact cls c (cls?_mem h)

def FnDecl.scripts (d : FnDecl) : List Script := d.pre ++ d.post ++ [d.body]
def ClsDecl.scripts (c : ClsDecl) : List Script := c.invs ++ [c.init] ++ c.meths.map (·.body)
def Program.scripts (p : Program) : List Script :=
  p.fns.flatMap FnDecl.scripts ++ p.classes.flatMap ClsDecl.scripts
def Program.keys (p : Program) : List Key := (p.scripts.flatMap (·.actions)).map Action.key

theorem key_mem_keys {p : Program} {s : Script} {a : Action} (hs : s ∈ p.scripts) (ha : a ∈ s.actions) :
    a.key ∈ p.keys :=
  List.mem_map.mpr ⟨a, List.mem_flatMap.mpr ⟨s, hs, ha⟩, rfl⟩

/-- the recursion depth that a list of conditions takes beyond what its calls take: per condition one
level for the step to the next one, one for each of its actions and two for `.script` and `.acts []`
(`script_nt`); the sum is more than needed, the rest of the list running beside the condition and not
below it -/
def condsSize : List Script → Nat
  | [] => 0
  | c :: cs => c.actions.length + 3 + condsSize cs

def Program.size (p : Program) : Nat := condsSize p.scripts

theorem condsSize_le_of_sublist {cs cs' : List Script} (h : cs.Sublist cs') : condsSize cs ≤ condsSize cs' := by
  induction h with
  | slnil => exact Nat.le_refl _
  | cons c _ ih => exact Nat.le_trans ih (Nat.le_add_left _ _)
  | cons_cons c _ ih => exact Nat.add_le_add_left ih _

theorem length_le_size {p : Program} {s : Script} (hs : s ∈ p.scripts) : s.actions.length ≤ p.size :=
  Nat.le_trans (Nat.le_add_right _ 3) (condsSize_le_of_sublist (List.singleton_sublist.2 hs))

-- A list of conditions is a sublist of `p.scripts`, which says both that its scripts are scripts of
-- the program and that its size is at most the program's.
theorem sublist_scripts_fn {p : Program} {d : FnDecl} (hd : d ∈ p.fns) : d.scripts.Sublist p.scripts :=
  (List.sublist_flatten_of_mem (List.mem_map_of_mem hd)).trans (List.sublist_append_left _ _)

theorem sublist_scripts_cls {p : Program} {c : ClsDecl} (hc : c ∈ p.classes) : c.scripts.Sublist p.scripts :=
  (List.sublist_flatten_of_mem (List.mem_map_of_mem hc)).trans (List.sublist_append_right _ _)

theorem sublist_scripts_pre {p : Program} {d : FnDecl} (hd : d ∈ p.fns) : d.pre.Sublist p.scripts :=
  ((List.sublist_append_left _ _).trans (List.sublist_append_left _ _)).trans (sublist_scripts_fn hd)
theorem sublist_scripts_post {p : Program} {d : FnDecl} (hd : d ∈ p.fns) : d.post.Sublist p.scripts :=
  ((List.sublist_append_right _ _).trans (List.sublist_append_left _ _)).trans (sublist_scripts_fn hd)
theorem mem_scripts_body {p : Program} {d : FnDecl} (hd : d ∈ p.fns) : d.body ∈ p.scripts :=
  (sublist_scripts_fn hd).subset (List.mem_append_right _ (List.mem_singleton.mpr rfl))
theorem sublist_scripts_invs {p : Program} {c : ClsDecl} (hc : c ∈ p.classes) : c.invs.Sublist p.scripts :=
  ((List.sublist_append_left _ _).trans (List.sublist_append_left _ _)).trans (sublist_scripts_cls hc)
theorem mem_scripts_init {p : Program} {c : ClsDecl} (hc : c ∈ p.classes) : c.init ∈ p.scripts :=
  (sublist_scripts_cls hc).subset
    (List.mem_append_left _ (List.mem_append_right _ (List.mem_singleton.mpr rfl)))
theorem mem_scripts_meth {p : Program} {c : ClsDecl} (hc : c ∈ p.classes) {md : MethDecl} (hm : md ∈ c.meths) :
    md.body ∈ p.scripts :=
  (sublist_scripts_cls hc).subset (List.mem_append_right _ (List.mem_map.mpr ⟨md, hm, rfl⟩))

/-- fewer than `m` keys of the universe are not in progress -/
def CovU (U : List Key) (m : Nat) (s : List Key) : Prop := (U.filter (!s.contains ·)).length < m

theorem CovU.mono {U : List Key} {m m' : Nat} {s : List Key} (h : CovU U m s) (hm : m ≤ m') : CovU U m' s :=
  Nat.lt_of_lt_of_le h hm

theorem CovU.all (U s : List Key) : CovU U (U.length + 1) s :=
  Nat.lt_succ_of_le (List.length_filter_le _ _)

theorem CovU.add {U : List Key} {m : Nat} {st : St} {x : Key} (h : CovU U (m + 1) st.s)
    (hx : x ∈ U) (hc : st.s.contains x = false) : CovU U m (st.add x).s := by
  refine Nat.lt_of_lt_of_le ?_ (Nat.le_of_lt_succ h)
  have e : U.filter (!(st.add x).s.contains ·) = (U.filter (!st.s.contains ·)).filter (· != x) := by
    rw [List.filter_filter]
    exact List.filter_congr fun k _ => by rw [contains_add, Bool.not_or]; rfl
  rw [e, List.length_filter_lt_length_iff_exists]
  exact ⟨x, List.mem_filter.2 ⟨hx, by rw [hc]; rfl⟩, by rw [bne_self_eq_false]; exact Bool.false_ne_true⟩

-- Lists of actions and of conditions finish when their actions do: `C` is what is assumed of the
-- in-progress set (`run_s` keeps it), `A` of the actions; they become `CovU U m` and "key in `U`, rank `r`".
section
variable {p : Program} {B : Nat} {C : List Key → Prop} {A : Action → Prop}
  (H : ∀ st, C st.s → ∀ a, A a → NT p B st (.act a))
include H

theorem acts_nt {as : List Action} (hA : ∀ a ∈ as, A a) {st : St} (hst : C st.s) :
    NT p (B + as.length + 1) st (.acts as) := by
  induction as generalizing st with
  | nil => exact nofun
  | cons a rest ih =>
    unfold NT
    rw [run_acts_cons]
    apply andThen_nt
    · exact (H st hst a (hA a List.mem_cons_self)).mono (Nat.le_add_right _ _)
    · exact ih (fun b hb => hA b (List.mem_cons_of_mem _ hb)) (by rw [run_s]; exact hst)

theorem script_nt (c : Script) (hA : ∀ a ∈ c.actions, A a) (st : St) (hst : C st.s) :
    NT p (B + c.actions.length + 2) st (.script c) := by
  unfold NT
  rw [run_script]
  exact acts_nt H hA hst

theorem conds_nt {mk ev viol} (hmk : IsConds mk ev viol) :
    ∀ (cs : List Script), (∀ c ∈ cs, ∀ a ∈ c.actions, A a) →
    ∀ (k : Nat) (st : St), C st.s → NT p (B + condsSize cs + 1) st (mk k cs) := by
  intro cs
  induction cs with
  | nil => intro _ k st _; unfold NT; rw [hmk.run_nil]; exact nofun
  | cons c cs ih =>
    intro hA k st hst
    unfold NT
    rw [hmk.run_cons]
    apply andThen_nt
    · exact (script_nt H c (hA c List.mem_cons_self) (st.emit _) hst).mono
        (Nat.add_le_add_left (Nat.le_trans (Nat.le_succ (c.actions.length + 2)) (Nat.le_add_right _ (condsSize cs))) B)
    · split
      · show NT p _ _ _
        refine NT.mono (ih (fun c' hc' => hA c' (List.mem_cons_of_mem _ hc')) _ _ ?_)
          (Nat.add_le_add_left (Nat.lt_add_of_pos_left (Nat.succ_pos _)) B)
        rw [run_s]; exact hst
      · exact hmk.viol_ne_timeout k

end

/- One step of the lexicographic induction: fewer than `m + 1` keys of the universe may still be added,
the action has rank `r + 1`; `B` bounds every action once one more key is in progress, and the actions
of rank `r`.  The three wrappers (`step_callFn`, `step_callMethod`, `step_superInit`) differ in what
runs while the key is in progress: a function's conditions but not its body, a method's invariants and
its body, a constructor's body and then the invariants. -/

section step
variable {p : Program} {U : List Key} (hU : p.keys ⊆ U) {m r B : Nat}
  (H0 : ∀ st : St, CovU U m st.s → ∀ b : Action, b.key ∈ U → NT p B st (.act b))
  (HB : ∀ st : St, CovU U (m + 1) st.s → ∀ b : Action, b.key ∈ U → p.rk r b → NT p B st (.act b))

include hU HB in
theorem body_nt {s : Script} (hs : s ∈ p.scripts) (hr : ∀ b ∈ s.actions, p.rk r b)
    {st : St} (hst : CovU U (m + 1) st.s) : NT p (B + p.size + 2) st (.script s) :=
  (script_nt (C := CovU U (m + 1)) (A := fun b => b.key ∈ U ∧ p.rk r b)
    (fun st h b hb => HB st h b hb.1 hb.2) s (fun b hb => ⟨hU (key_mem_keys hs hb), hr b hb⟩) st hst).mono
    (Nat.add_le_add_right (Nat.add_le_add_left (length_le_size hs) B) 2)

include hU H0 in
theorem contract_nt {mk ev viol} (hmk : IsConds mk ev viol) {cs : List Script}
    (hcs : cs.Sublist p.scripts) {k : Nat} {st : St} (hst : CovU U m st.s) :
    NT p (B + p.size + 2) st (mk k cs) :=
  (conds_nt (C := CovU U m) (A := fun b => b.key ∈ U) H0 hmk cs
    (fun _ hc _ hb => hU (key_mem_keys (hcs.subset hc) hb)) k st hst).mono
    (Nat.le_succ_of_le (Nat.add_le_add_right (Nat.add_le_add_left (condsSize_le_of_sublist hcs) B) 1))

include hU H0 HB in
theorem step_callFn {st : St} (hst : CovU U (m + 1) st.s) {f : FnId}
    (hk : Key.fn f ∈ U) (hr : p.rk (r + 1) (.callFn f)) :
    NT p ((B + p.size + 2) + 1) st (.act (.callFn f)) := by
  unfold NT
  cases h : p.fn? f with
  | none => rw [run_callFn_none h]; exact nofun
  | some d =>
    have hd := fn?_mem h
    have hbody := (rk_succ_iff (bodyOf_callFn h)).1 hr
    cases hg : st.s.contains (.fn f) with
    | true =>
      rw [run_callFn_bare_repaired h hg]
      exact body_nt hU HB (mem_scripts_body hd) hbody hst
    | false =>
      have hcov := hst.add hk hg
      rw [run_callFn_checked_repaired h hg, fin_snd]
      apply andThen_nt
      · exact contract_nt hU H0 (.pres f) (sublist_scripts_pre hd) hcov
      -- the body runs with the set as it was before the call, the postconditions with the key added again
      · have hmem : ∀ {s : St}, s.s = (st.add (.fn f)).s → ((s.discard (.fn f)).emit (.body f)).s = st.s :=
          fun hs => restored_of_eq_add hg hs
        apply andThen_nt
        · refine body_nt hU HB (mem_scripts_body hd) hbody ?_
          rw [hmem run_s]; exact hst
        · refine contract_nt hU H0 (.posts f) (sublist_scripts_post hd) ?_
          rw [add_s_congr (run_s.trans (hmem run_s))]; exact hcov

include hU H0 HB in
theorem step_callMethod {st : St} (hst : CovU U (m + 1) st.s) {i : InstId} {mi : MethId}
    (hk : Key.inst i ∈ U) (hr : p.rk (r + 1) (.callMethod i mi)) :
    NT p ((B + p.size + 2) + 1) st (.act (.callMethod i mi)) := by
  unfold NT
  rcases p.meth?_cases i mi with h | ⟨c, md, h⟩
  · rw [run_callMethod_none h]; exact nofun
  · obtain ⟨hc, hmd⟩ := meth?_mem h
    have hbody := (rk_succ_iff (bodyOf_callMethod h)).1 hr
    cases hg : (!md.guarded || st.s.contains (.inst i)) with
    | true =>
      rw [run_callMethod_bare h hg]
      exact body_nt hU HB (mem_scripts_meth hc hmd) hbody hst
    | false =>
      have hcov := hst.add hk (Bool.or_eq_false_iff.mp hg).2
      rw [run_callMethod_checked h hg, fin_snd]
      apply andThen_nt
      · exact contract_nt hU H0 (.invs i) (sublist_scripts_invs hc) hcov
      -- the instance stays in progress while the body runs
      · apply andThen_nt
        · refine body_nt hU HB (mem_scripts_meth hc hmd) hbody ?_
          rw [emit_s, run_s]; exact hcov.mono (Nat.le_succ _)
        · refine contract_nt hU H0 (.invs i) (sublist_scripts_invs hc) ?_
          rw [run_s, emit_s, run_s]; exact hcov

include hU H0 HB in
theorem step_superInit {st : St} (hst : CovU U (m + 1) st.s) {i : InstId} {cid : ClsId}
    (hk : Key.inst i ∈ U) (hr : p.rk (r + 1) (.superInit i cid)) :
    NT p ((B + p.size + 2) + 1) st (.act (.superInit i cid)) := by
  unfold NT
  cases h : p.cls? cid with
  | none => rw [run_superInit_none h]; exact nofun
  | some c =>
    have hc := cls?_mem h
    have hbody := (rk_succ_iff (bodyOf_superInit h)).1 hr
    cases hg : (!c.initWrapped || st.s.contains (.inst i)) with
    | true =>
      rw [run_superInit_bare_repaired h hg]
      exact body_nt hU HB (mem_scripts_init hc) hbody hst
    | false =>
      have hcov := hst.add hk (Bool.or_eq_false_iff.mp hg).2
      rw [run_superInit_checked_repaired h hg, fin_snd]
      apply andThen_nt
      · exact body_nt hU HB (mem_scripts_init hc) hbody (hcov.mono (Nat.le_succ _))
      · have hsub := invsOf_cases (motive := (·.Sublist p.scripts)) p i (List.nil_sublist _)
          fun _ hc' => sublist_scripts_invs hc'
        refine contract_nt hU H0 (.invs i) hsub ?_
        rw [run_s]; exact hcov

include hU H0 HB in
theorem step_act {st : St} (hst : CovU U (m + 1) st.s) {a : Action}
    (hk : a.key ∈ U) (hr : p.rk (r + 1) a) : NT p ((B + p.size + 2) + 1) st (.act a) := by
  cases a with
  | callFn f => exact step_callFn hU H0 HB hst hk hr
  | callMethod i mi => exact step_callMethod hU H0 HB hst hk hr
  | construct i =>
    unfold NT
    rw [run_construct]
    exact (HB st hst (.superInit i (p.clsOf i)) hk (rk_succ_construct.1 hr)).mono
      (Nat.le_add_right B (p.size + 2))
  | superInit i cid => exact step_superInit hU H0 HB hst hk hr

end step

theorem nt_of_covU {p : Program} {n : Nat} (hall : ∀ a, p.rk n a) {U : List Key} (hU : p.keys ⊆ U) :
    ∀ (m : Nat) (st : St), CovU U m st.s → ∀ a : Action, a.key ∈ U →
      NT p (m * (n * (p.size + 3))) st (.act a) := by
  intro m
  induction m with
  | zero => exact fun _ h => absurd h (Nat.not_lt_zero _)
  | succ m ihm =>
    -- each rank takes `p.size + 3` levels more: one for the call and `p.size + 2` for its longest body or
    -- list of conditions (`body_nt`, `contract_nt`)
    have byRank : ∀ (r : Nat) (st : St), CovU U (m + 1) st.s → ∀ a : Action, a.key ∈ U → p.rk r a →
        NT p (m * (n * (p.size + 3)) + r * (p.size + 3)) st (.act a) := by
      intro r
      induction r with
      | zero => exact fun _ _ _ _ hr => hr.elim
      | succ r ihr =>
        intro st hst a hk hr
        rw [Nat.add_one_mul, ← Nat.add_assoc, ← Nat.add_assoc]
        exact step_act hU (fun st h b hb => (ihm st h b hb).mono (Nat.le_add_right _ _)) ihr hst hk hr
    rw [Nat.add_one_mul]
    exact fun st hst a hk => byRank n st hst a hk (hall a)

theorem terminate_of_rk {p : Program} {n : Nat} (hall : ∀ a, p.rk n a) :
    ∃ N, ∀ fuel, N ≤ fuel → ∀ (st : St) (a : Action), (run p .repaired fuel st (.act a)).2 ≠ .timeout := by
  refine ⟨(p.keys.length + 2) * (n * (p.size + 3)), fun fuel hf st a => ?_⟩
  -- the universe: the key of the action and the keys that the program's scripts can add; it has
  -- `p.keys.length + 1` keys, so fewer than `p.keys.length + 2` are not in progress
  have hcov : CovU (a.key :: p.keys) (p.keys.length + 2) st.s := CovU.all (a.key :: p.keys) st.s
  exact (nt_of_covU hall (List.subset_cons_self _ _) _ st hcov a List.mem_cons_self).mono hf

structure NoContracts (q : Program) : Prop where
  fn : ∀ d ∈ q.fns, d.pre = [] ∧ d.post = []
  cls : ∀ c ∈ q.classes, c.invs = []

/-- the command evaluates no condition -/
def Cmd.Plain : Cmd → Prop
  | .pres _ _ cs => cs = []
  | .posts _ _ cs => cs = []
  | .invs _ _ cs => cs = []
  | _ => True

theorem IsConds.plain {mk ev viol} (h : IsConds mk ev viol) {k cs} (hp : (mk k cs).Plain) : cs = [] := by
  cases h <;> exact hp

/-- the evaluation returned normally or ran out of fuel: it raised no violation -/
def OT (r : St × Out) : Prop := r.2 = .ok ∨ r.2 = .timeout

theorem OT.andThen {r : St × Out} {k : St → St × Out} (h1 : OT r) (h2 : ∀ s, OT (k s)) :
    OT (andThen r k) :=
  andThen_cases (fun _ => h2 _) (fun _ => h1)

theorem OT.fin {x : Key} {r : St × Out} (h : OT r) : OT (fin x r) := h

theorem run_OT {q : Program} (hq : NoContracts q) {n : Nat} {st : St} {cmd : Cmd} (hp : cmd.Plain) :
    OT (run q .repaired n st cmd) := by
  induction n generalizing st cmd with
  | zero => exact .inr rfl
  | succ n ih =>
    cases cmd using Cmd.conds_cases with
    | script s => rw [run_script]; exact ih trivial
    | acts as =>
      cases as with
      | nil => exact .inl rfl
      | cons a rest =>
        rw [run_acts_cons]
        exact .andThen (ih trivial) fun _ => ih trivial
    | conds h k cs => obtain rfl : cs = [] := h.plain hp; rw [h.run_nil]; exact .inl rfl
    | act a =>
      cases a with
      | callFn f =>
        cases h : q.fn? f with
        | none => rw [run_callFn_none h]; exact .inl rfl
        | some d =>
          cases hc : st.s.contains (.fn f) with
          | true =>
            rw [run_callFn_bare_repaired h hc]
            exact ih trivial
          | false =>
            obtain ⟨hpre, hpost⟩ := hq.fn d (fn?_mem h)
            rw [run_callFn_checked_repaired h hc, hpre, hpost]
            exact .fin (.andThen (ih rfl) fun _ => .andThen (ih trivial) fun _ => ih rfl)
      | callMethod i m =>
        rcases q.meth?_cases i m with h | ⟨c, md, h⟩
        · rw [run_callMethod_none h]; exact .inl rfl
        · cases hc : (!md.guarded || st.s.contains (.inst i)) with
          | true => rw [run_callMethod_bare h hc]; exact ih trivial
          | false =>
            rw [run_callMethod_checked h hc, hq.cls c (meth?_mem h).1]
            exact .fin (.andThen (ih rfl) fun _ => .andThen (ih trivial) fun _ => ih rfl)
      | construct i => rw [run_construct]; exact ih trivial
      | superInit i cid =>
        cases h : q.cls? cid with
        | none => rw [run_superInit_none h]; exact .inl rfl
        | some c =>
          cases hc : (!c.initWrapped || st.s.contains (.inst i)) with
          | true => rw [run_superInit_bare_repaired h hc]; exact ih trivial
          | false =>
            rw [run_superInit_checked_repaired h hc, invsOf_cases (motive := (· = [])) q i rfl hq.cls]
            exact .fin (.andThen (ih trivial) fun _ => ih rfl)

theorem nt_andThen_inv {r : St × Out} {k : St → St × Out} (h : (andThen r k).2 ≠ .timeout) (hr : OT r) :
    r.2 = .ok ∧ (k r.1).2 ≠ .timeout := by
  rcases hr with hr | hr
  · rw [andThen_ok hr] at h; exact ⟨hr, h⟩
  · exact (h (andThen_snd_timeout hr)).elim

section
variable {q : Program} (hq : NoContracts q) {k : Nat}
  (IH : ∀ (st : St) (a : Action), NT q k st (.act a) → q.rk k a)
include hq IH

theorem acts_rk {as : List Action} {st : St} (h : NT q (k + 1) st (.acts as)) : ∀ b ∈ as, q.rk k b := by
  induction as generalizing st with
  | nil => intro b hb; cases hb
  | cons a rest ih =>
    intro b hb
    unfold NT at h
    rw [run_acts_cons] at h
    obtain ⟨h1, h2⟩ := nt_andThen_inv h (run_OT hq trivial)
    rcases List.mem_cons.mp hb with e | hb'
    · subst e
      apply IH st
      unfold NT
      rw [h1]
      exact nofun
    · exact ih (NT.mono (n := k) h2 (Nat.le_succ _)) b hb'

theorem script_rk {s : Script} {st : St} (h : NT q k st (.script s)) : ∀ b ∈ s.actions, q.rk k b := by
  have h' : NT q ((k + 1) + 1) st (.script s) := h.mono (Nat.le_add_right k 2)
  unfold NT at h'
  rw [run_script] at h'
  exact acts_rk hq IH h'

end

theorem rk_of_nt {q : Program} (hq : NoContracts q) :
    ∀ (k : Nat) (st : St) (a : Action), NT q k st (.act a) → q.rk k a := by
  intro k
  induction k with
  | zero => intro st a h; unfold NT at h; rw [run_zero] at h; exact (h rfl).elim
  | succ k ih =>
    intro st a h
    unfold NT at h
    cases a with
    | callFn f =>
      cases hf : q.fn? f with
      | none => exact rk_succ_of_bodyOf_nil (bodyOf_callFn_none hf)
      | some d =>
        refine (rk_succ_iff (bodyOf_callFn hf)).2 ?_
        cases hc : st.s.contains (.fn f) with
        | true =>
          rw [run_callFn_bare_repaired hf hc] at h
          exact script_rk hq ih h
        | false =>
          rw [run_callFn_checked_repaired hf hc, fin_snd] at h
          obtain ⟨_, h2⟩ := nt_andThen_inv h (run_OT hq (by rw [(hq.fn d (fn?_mem hf)).1]; exact rfl))
          exact script_rk hq ih (mt andThen_snd_timeout h2)
    | callMethod i m =>
      rcases q.meth?_cases i m with hm | ⟨c, md, hm⟩
      · exact rk_succ_of_bodyOf_nil (bodyOf_callMethod_none hm)
      · refine (rk_succ_iff (bodyOf_callMethod hm)).2 ?_
        cases hc : (!md.guarded || st.s.contains (.inst i)) with
        | true =>
          rw [run_callMethod_bare hm hc] at h
          exact script_rk hq ih h
        | false =>
          rw [run_callMethod_checked hm hc, fin_snd] at h
          obtain ⟨_, h2⟩ := nt_andThen_inv h (run_OT hq (by rw [hq.cls c (meth?_mem hm).1]; exact rfl))
          exact script_rk hq ih (mt andThen_snd_timeout h2)
    | construct i =>
      rw [run_construct] at h
      exact rk_succ_construct.2 (ih st _ h)
    | superInit i cid =>
      cases hf : q.cls? cid with
      | none => exact rk_succ_of_bodyOf_nil (bodyOf_superInit_none hf)
      | some c =>
        refine (rk_succ_iff (bodyOf_superInit hf)).2 ?_
        cases hc : (!c.initWrapped || st.s.contains (.inst i)) with
        | true =>
          rw [run_superInit_bare_repaired hf hc] at h
          exact script_rk hq ih h
        | false =>
          rw [run_superInit_checked_repaired hf hc, fin_snd] at h
          exact script_rk hq ih (mt andThen_snd_timeout h)

theorem bare_fn? (p : Program) (f : FnId) :
    p.bare.fn? f = (p.fn? f).map (fun d => { d with pre := [], post := [] }) := by
  unfold Program.fn? Program.bare
  exact List.getElem?_map

theorem bare_clsOf (p : Program) (i : InstId) : p.bare.clsOf i = p.clsOf i := rfl

theorem bare_cls? (p : Program) (c : ClsId) :
    p.bare.cls? c = (p.cls? c).map (fun c => { c with invs := [] }) := by
  unfold Program.cls? Program.bare
  exact List.getElem?_map

theorem bare_noContracts (p : Program) : NoContracts p.bare := by
  constructor
  · intro d hd
    obtain ⟨d0, _, rfl⟩ := List.mem_map.mp hd
    exact ⟨rfl, rfl⟩
  · intro c hc
    obtain ⟨c0, _, rfl⟩ := List.mem_map.mp hc
    rfl

theorem bare_bodyOf (p : Program) (a : Action) : p.bare.bodyOf a = p.bodyOf a := by
  cases a with
  | callFn f =>
    simp only [Program.bodyOf, bare_fn?]
    cases p.fn? f <;> rfl
  | callMethod i m =>
    simp only [Program.bodyOf, Program.meth?, bare_cls?, bare_clsOf]
    cases p.cls? (p.clsOf i) with
    | none => rfl
    | some c =>
      simp only [Option.map_some, Option.bind_some]
      cases c.meths[m]? <;> rfl
  | construct i => rfl
  | superInit i cid =>
    simp only [Program.bodyOf, bare_cls?]
    cases p.cls? cid <;> rfl

theorem bare_rk (p : Program) : ∀ (r : Nat) (a : Action), p.bare.rk r a ↔ p.rk r a := by
  intro r
  induction r with
  | zero => intro a; exact Iff.rfl
  | succ r ih =>
    intro a
    show (∀ b ∈ p.bare.bodyOf a, p.bare.rk r b) ↔ (∀ b ∈ p.bodyOf a, p.rk r b)
    rw [bare_bodyOf]
    exact forall_congr' fun b => imp_congr_right fun _ => ih b

theorem rk_of_bare {p : Program} {n : Nat}
    (h : ∀ a : Action, ∃ st : St, (run p.bare .repaired n st (.act a)).2 ≠ .timeout) :
    ∀ a, p.rk n a :=
  fun a => (h a).elim fun st hst => (bare_rk p n a).mp (rk_of_nt (bare_noContracts p) n st a hst)

theorem bare_of_rk {p : Program} {n : Nat} (h : ∀ a, p.rk n a) :
    ∃ N, ∀ (st : St) (a : Action), (run p.bare .repaired N st (.act a)).2 ≠ .timeout := by
  obtain ⟨N, hN⟩ := terminate_of_rk (p := p.bare) (n := n) (fun a => (bare_rk p n a).mpr (h a))
  exact ⟨N, hN N (Nat.le_refl _)⟩

theorem rk_two_of_no_calls {p : Program}
    (hb : ∀ d ∈ p.fns, d.body.actions = [])
    (hm : ∀ c ∈ p.classes, c.init.actions = [] ∧ ∀ m ∈ c.meths, m.body.actions = []) :
    ∀ a, p.rk 2 a := by
  have hsuper : ∀ {i cid r}, p.rk (r + 1) (.superInit i cid) := by
    intro i cid r
    cases h : p.cls? cid with
    | none => exact rk_succ_of_bodyOf_nil (bodyOf_superInit_none h)
    | some c => exact rk_succ_of_bodyOf_nil ((bodyOf_superInit h).trans (hm c (cls?_mem h)).1)
  intro a
  cases a with
  | callFn f =>
    cases h : p.fn? f with
    | none => exact rk_succ_of_bodyOf_nil (bodyOf_callFn_none h)
    | some d => exact rk_succ_of_bodyOf_nil ((bodyOf_callFn h).trans (hb d (fn?_mem h)))
  | callMethod i m =>
    rcases p.meth?_cases i m with h | ⟨c, md, h⟩
    · exact rk_succ_of_bodyOf_nil (bodyOf_callMethod_none h)
    · exact rk_succ_of_bodyOf_nil ((bodyOf_callMethod h).trans ((hm c (meth?_mem h).1).2 md (meth?_mem h).2))
  | construct i => exact rk_succ_construct.2 hsuper
  | superInit i cid => exact hsuper

end Icontract.Re
