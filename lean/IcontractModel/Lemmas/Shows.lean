/-
  What introspection shows of one function (`FnSt`: precondition groups, snapshots, postconditions), through the steps
  of the metaclass model (Meta.lean) that touch it: the decorators of a fresh function (`Decorated`, one step per
  decorator over the explicit world `declWorld` of Lemmas/MetaFrame.lean) and its collapse in the namespace pass of a
  class statement (`FnSt.collapse`; `member_step`: the lists of the functions the direct bases provide, then its own;
  `member_accepts`: when it is not refused).
  Of the reference semantics only the word `ownGroups` (Lemmas/Override.lean) is used: the groups a fresh function's
  `@require`s must leave.
-/
import IcontractModel.Lemmas.MetaClass
import IcontractModel.Lemmas.Override
import IcontractModel.Spec.ChainHistory
namespace Icontract.Meta

/-- what introspection shows of `f`: groups, snapshots, postconditions; the cells of its checker (if any) lie in the
heap, a function without postconditions has no snapshots (so a collapse never skips the installation of inherited
snapshots), and the snapshots' names are distinct -/
structure FnSt (w : World) (f : FnId) (gs : List (List Nat)) (ss ps : List Nat) : Prop where
  wf : ∀ ck, w.checker? f = some ck → ∀ r ∈ cellsOf w ck, r < w.heap.length
  pre : preOf w f = gs
  snaps : snapsOf w f = ss
  posts : postsOf w f = ps
  snaps_need_posts : ps = [] → ss = []
  snaps_nodup : (ss.map (snapName w)).Nodup

theorem FnSt.of_hpres {w w' : World} {f : FnId} {gs : List (List Nat)} {ss ps : List Nat}
    (a : FnSt w f gs ss ps) (hp : HPres w.heap w'.heap) (hc : w'.checker? f = w.checker? f)
    (hsn : w'.snapNames = w.snapNames) : FnSt w' f gs ss ps := by
  obtain ⟨h2, h3, h4⟩ := observe_eq_of_cells hc (fun ck hck r hr => hp.1 r (a.wf ck hck r hr))
  refine ⟨fun ck h r hr => ?_, h2.trans a.pre, h4.trans a.snaps, h3.trans a.posts, a.snaps_need_posts,
    by rw [snapName_congr hsn]; exact a.snaps_nodup⟩
  rw [hc] at h
  rw [cellsOf_hpres hp (a.wf ck h _ (mem_cellsOf_pre w ck))] at hr
  exact Nat.lt_of_lt_of_le (a.wf ck h r hr) hp.2

theorem FnSt.frame {S : FnId → Prop} {w w' : World} {f : FnId} {gs : List (List Nat)} {ss ps : List Nat}
    (a : FnSt w f gs ss ps) (fr : Frame S w w') (hsn : w'.snapNames = w.snapNames) (hf : ¬ S f) :
    FnSt w' f gs ss ps :=
  a.of_hpres fr.heap (fr.checkers f hf) hsn

theorem FnSt.withCls {w : World} {f : FnId} {gs : List (List Nat)} {ss ps : List Nat} (a : FnSt w f gs ss ps)
    (c : Cls) (hook : Bool := true) : FnSt (withCls w c hook) f gs ss ps :=
  a.of_hpres (HPres.refl _) rfl rfl

theorem FnSt.ownPre_lt {w : World} {f : FnId} {gs : List (List Nat)} {ss ps : List Nat} (a : FnSt w f gs ss ps) :
    ∀ g ∈ ownPre w f, g < w.heap.length := by
  intro g hg
  unfold ownPre at hg
  cases hck : w.checker? f with
  | none => simp [hck] at hg
  | some ck =>
    simp only [hck] at hg
    exact a.wf ck hck g (mem_cellsOf_group w ck g hg)

/-- `w1` is `w` after decorators on the fresh function `f` that gave it the groups `gs`, snapshots `ss` and
postconditions `ps`: nothing at all, or a checker with these lists -/
def Decorated (w : World) (f : FnId) (gs : List (List Nat)) (ss ps : List Nat) (w1 : World) : Prop :=
  (gs = [] ∧ ss = [] ∧ ps = [] ∧ w1 = w) ∨ w1 = declWorld w f gs ss ps

theorem Decorated.start (w : World) (f : FnId) : Decorated w f [] [] [] w := Or.inl ⟨rfl, rfl, rfl, rfl⟩

theorem Decorated.shows {w w1 : World} {f : FnId} {gs : List (List Nat)} {ss ps : List Nat}
    (d : Decorated w f gs ss ps w1) (h : w.checker? f = none)
    (sp : ps = [] → ss = []) (nd : (ss.map (snapName w)).Nodup) :
    Frame (· = f) w w1 ∧ w1.snapNames = w.snapNames ∧ FnSt w1 f gs ss ps := by
  rcases d with ⟨rfl, rfl, rfl, rfl⟩ | rfl
  · refine ⟨Frame.refl, rfl, (fun ck hck => by rw [h] at hck; cases hck), ?_, ?_, ?_, sp, nd⟩
    · simp only [preOf, h]
    · simp only [snapsOf, h]
    · simp only [postsOf, h]
  · have hck := declWorld_checker gs ss ps h
    obtain ⟨g0, g1, g2, g3⟩ := declWorld_get w f gs ss ps
    have hlen : (declWorld w f gs ss ps).heap.length = w.heap.length + 3 + gs.length := by
      dsimp only [declWorld]
      rw [List.length_append, List.length_append, ← Nat.add_assoc]
      rfl
    refine ⟨declWorld_frame w f gs ss ps, rfl, ?_, ?_, ?_, ?_, sp, nd⟩
    · intro ck hck'
      rw [hck] at hck'
      cases hck'
      simp only [forall_mem_cellsOf, g0, hlen, List.mem_range'_1]
      exact ⟨Nat.lt_add_right _ (Nat.lt_add_of_pos_right (by decide)),
        Nat.lt_add_right _ (Nat.add_lt_add_left (by decide) _), Nat.lt_add_right _ (Nat.lt_succ_self _),
        fun g hg => hg.2⟩
    · simp only [preOf, hck, g0, g3]
    · simp only [snapsOf, hck, g1]
    · simp only [postsOf, hck, g2]

theorem Decorated.ensure {w w1 : World} {f : FnId} {gs : List (List Nat)} {ss ps : List Nat}
    (d : Decorated w f gs ss ps w1) (h : w.checker? f = none) (c : CId) :
    Decorated w f gs ss (ps ++ [c]) (addPost w1 f c) := by
  rcases d with ⟨rfl, rfl, rfl, rfl⟩ | rfl
  · exact Or.inr (addPost_fresh_eq _ h)
  · exact Or.inr (addPost_declWorld h)

theorem Decorated.ensures {w w1 : World} {f : FnId} {gs : List (List Nat)} {ss ps : List Nat}
    (d : Decorated w f gs ss ps w1) (h : w.checker? f = none) (cs : List CId) :
    Decorated w f gs ss (ps ++ cs) (cs.foldl (fun w c => addPost w f c) w1) :=
  foldl_snoc_ind (P := fun cs w1 => Decorated w f gs ss cs w1) (fun _ _ c d => d.ensure h c) cs ps w1 d

theorem Decorated.require {w w1 : World} {f : FnId} {ss ps : List Nat} {cs : List CId}
    (d : Decorated w f (ownGroups cs) ss ps w1) (h : w.checker? f = none) (c : CId) :
    Decorated w f (ownGroups (cs ++ [c])) ss ps (addPre w1 f c) := by
  cases cs with
  | nil =>
    rcases d with ⟨_, rfl, rfl, rfl⟩ | rfl
    · exact Or.inr (addPre_fresh_eq _ h)
    · exact Or.inr (addPre_declWorld_nil h)
  | cons a cs =>
    rcases d with ⟨e, _⟩ | rfl
    · cases e
    · exact Or.inr (addPre_declWorld_one h)

theorem Decorated.requires {w w1 : World} {f : FnId} {ss ps : List Nat}
    (d : Decorated w f [] ss ps w1) (h : w.checker? f = none) (cs : List CId) :
    Decorated w f (ownGroups cs) ss ps (cs.foldl (fun w c => addPre w f c) w1) :=
  foldl_snoc_ind (P := fun cs w1 => Decorated w f (ownGroups cs) ss ps w1) (fun _ _ c d => d.require h c) cs [] w1 d

theorem Decorated.snapshot {w w1 w2 : World} {f : FnId} {gs : List (List Nat)} {ss ps : List Nat} {s : Nat}
    (d : Decorated w f gs ss ps w1 ∧ (ps = [] → ss = []) ∧ (ss.map (snapName w)).Nodup) (h : w.checker? f = none)
    (h2 : addSnap w1 f s = .ok w2) :
    Decorated w f gs (ss ++ [s]) ps w2 ∧ (ps = [] → ss ++ [s] = []) ∧ ((ss ++ [s]).map (snapName w)).Nodup := by
  obtain ⟨d, _, hnd⟩ := d
  rcases d with ⟨_, _, _, rfl⟩ | rfl
  · rw [addSnap_none s h] at h2; cases h2
  · rw [addSnap_declWorld h] at h2
    by_cases hps : ps.isEmpty = true
    · rw [if_pos hps] at h2
      cases h2
    · rw [if_neg hps] at h2
      split at h2
      · cases h2
      · next hany =>
        refine ⟨Or.inr (Except.ok.inj h2).symm, fun e => absurd (e ▸ rfl) hps, ?_⟩
        rw [List.map_append, List.nodup_append]
        refine ⟨hnd, List.nodup_cons.mpr ⟨List.not_mem_nil, List.nodup_nil⟩, fun a ha b hb e => hany ?_⟩
        obtain ⟨t, ht, rfl⟩ := List.mem_map.mp ha
        rw [List.mem_singleton.mp hb] at e
        exact List.any_eq_true.mpr ⟨t, ht, beq_iff_eq.mpr e⟩

theorem Decorated.snapshots {w w1 w2 : World} {f : FnId} {gs : List (List Nat)} {ps : List Nat}
    (d : Decorated w f gs [] ps w1) (h : w.checker? f = none) (sn : List Nat)
    (h2 : sn.foldlM (fun w s => addSnap w f s) w1 = .ok w2) :
    Decorated w f gs sn ps w2 ∧ (ps = [] → sn = []) ∧ (sn.map (snapName w)).Nodup :=
  foldlM_snoc_ind
    (P := fun ss w1 => Decorated w f gs ss ps w1 ∧ (ps = [] → ss = []) ∧ (ss.map (snapName w)).Nodup)
    (fun _ _ _ _ d e => Decorated.snapshot d h e) sn [] w1 w2 ⟨d, fun _ => rfl, List.nodup_nil⟩ h2

theorem declareFn_spec {w : World} {l : ChainLevel} (h : w.checker? l.f = none) :
    Frame (· = l.f) w (declareFn w l) ∧ (declareFn w l).snapNames = w.snapNames ∧
      FnSt (declareFn w l) l.f (ownGroups l.pre) [] l.posts :=
  (((Decorated.start w l.f).requires h l.pre).ensures h l.posts).shows h (fun _ => rfl) List.nodup_nil

theorem FnSt.collapse {w w' : World} {key : String} {f : FnId} {hv : Bool} {bPre bSnaps bPosts : List Nat}
    {own : List (List Nat)} {snaps posts : List Nat} (hf : FnSt w f own snaps posts)
    (h : decorateOne w key f true (hv, bPre, bSnaps, bPosts) = .ok w')
    (hb : ∀ g ∈ bPre, g < w.heap.length) (hbsp : bPosts = [] → bSnaps = []) :
    FnSt w' f (bPre.map w.heap.get ++ own) (bSnaps ++ snaps) (bPosts ++ posts) := by
  -- either nothing was installed - all lists were empty and `w' = w` - or `Collapsed` says where the new lists are and
  -- that the copies hold what the bases' groups held
  have hown := hf.ownPre_lt
  obtain ⟨hwf, rfl, rfl, rfl, sp, _⟩ := hf
  have hsp : bPosts ++ postsOf w f = [] → bSnaps ++ snapsOf w f = [] := fun e =>
    List.append_eq_nil_iff.mpr ⟨hbsp (List.append_eq_nil_iff.mp e).1, sp (List.append_eq_nil_iff.mp e).2⟩
  obtain ⟨_, hfd, hcases⟩ := decorateOne_spec h
  have hnd := (firstDuplicate_none_iff w _).mp hfd
  rw [← snapName_congr (decorateOne_snapNames h)] at hnd
  rcases hcases with ⟨h1, h2, rfl⟩ | ⟨N, c⟩
  · obtain ⟨rfl, _⟩ := List.append_eq_nil_iff.mp h1
    obtain ⟨rfl, _⟩ := List.append_eq_nil_iff.mp (hsp h2)
    obtain ⟨rfl, _⟩ := List.append_eq_nil_iff.mp h2
    exact ⟨hwf, rfl, rfl, rfl, hsp, hnd⟩
  · refine ⟨fun ck hck' => ?_, ?_, ?_, ?_, hsp, hnd⟩
    · rw [c.checker] at hck'
      cases hck'
      rw [forall_mem_cellsOf]
      dsimp only
      rw [c.len, c.preCell]
      have hle : w.heap.length + bPre.length ≤ N + 3 := Nat.le_add_right_of_le c.base
      refine ⟨Nat.lt_add_of_pos_right (by decide), Nat.add_lt_add_left (by decide) N, Nat.lt_succ_self _,
        fun g hg => ?_⟩
      rcases List.mem_append.mp hg with hg | hg
      · exact Nat.lt_of_lt_of_le (List.mem_range'_1.mp hg).2 hle
      · exact Nat.lt_of_lt_of_le (hown g hg) (Nat.le_trans (Nat.le_add_right _ _) hle)
    · rw [c.preOf_eq (fun g hg => (List.mem_append.mp hg).elim (hb g) (hown g)), List.map_append, preOf_eq]
    · simp only [snapsOf, c.checker, c.snapsCell]; rfl
    · simp only [postsOf, c.checker, c.postsCell]; rfl

theorem collectBases_shown {ι : Type} {w : World} {key : String} {bases : List ClsId} {provs : List ι}
    {fn : ι → FnId} {G : ι → List (List Nat)} {S P : ι → List Nat}
    (hb : bases.filterMap (fun b => lookupMember w b key) = provs.map (fun p => Member.func (fn p)))
    (hp : ∀ p ∈ provs, FnSt w (fn p) (G p) (S p) (P p)) :
    ∃ X, (∀ r ∈ X, r < w.heap.length) ∧ X.map w.heap.get = provs.flatMap G ∧
      collectBases w bases key =
        (!provs.isEmpty, if provs.any (fun p => (G p).isEmpty) then [] else X, provs.flatMap S, provs.flatMap P) := by
  refine ⟨(provs.map fn).flatMap (ownPre w), fun r hr => ?_, ?_, ?_⟩
  · obtain ⟨g, hg, hr⟩ := List.mem_flatMap.mp hr
    obtain ⟨p, hm, rfl⟩ := List.mem_map.mp hg
    exact (hp p hm).ownPre_lt r hr
  · rw [List.flatMap_map, List.map_flatMap]
    exact flatMap_congr (fun p h => by rw [← preOf_eq]; exact (hp p h).pre)
  · have hany : (provs.map fn).any (fun g => (ownPre w g).isEmpty) = provs.any (fun p => (G p).isEmpty) := by
      rw [List.any_map]
      exact any_congr (fun p h => by rw [Function.comp, ← (hp p h).pre, preOf_eq, List.isEmpty_map])
    have hS : (provs.map fn).flatMap (ownSnaps w) = provs.flatMap S := by
      rw [List.flatMap_map]; exact flatMap_congr (fun p h => (hp p h).snaps)
    have hP : (provs.map fn).flatMap (ownPosts w) = provs.flatMap P := by
      rw [List.flatMap_map]; exact flatMap_congr (fun p h => (hp p h).posts)
    rw [collectBases_eq w key bases (provs.map fn) (by rw [hb, List.map_map]; rfl), hany, hS, hP, List.isEmpty_map]

/-- `provs : List ι` indexes the functions the direct bases hand down, in the order of the bases (`hb`): `fn p` is the
function, `G p` / `S p` / `P p` the groups, snapshots and postconditions it shows (`hp`); the callers take the providing
classes (`ι := ClsId`, dag) or the last chain level (`ι := ChainLevel`).  In `collectBases_shown`, `X` are the group
cells of these functions, whose contents are `provs.flatMap G` -/
theorem member_step {ι : Type} {w w' : World} {key : String} {f : FnId} {bases : List ClsId} {provs : List ι}
    {fn : ι → FnId} {G : ι → List (List Nat)} {S P : ι → List Nat} {own : List (List Nat)}
    {snaps posts : List Nat}
    (hb : bases.filterMap (fun b => lookupMember w b key) = provs.map (fun p => Member.func (fn p)))
    (hp : ∀ p ∈ provs, FnSt w (fn p) (G p) (S p) (P p))
    (hf : FnSt w f own snaps posts)
    (hdec : decorateOne w key f true (collectBases w bases key) = .ok w') :
    FnSt w' f (if provs.any (fun p => (G p).isEmpty) then [] else provs.flatMap G ++ own)
      (provs.flatMap S ++ snaps) (provs.flatMap P ++ posts) := by
  obtain ⟨X, hX, hG, hcb⟩ := collectBases_shown hb hp
  rw [hcb] at hdec
  have hbsp : provs.flatMap P = [] → provs.flatMap S = [] := fun e =>
    List.flatMap_eq_nil_iff.mpr (fun p hm => (hp p hm).snaps_need_posts (List.flatMap_eq_nil_iff.mp e p hm))
  by_cases hany : provs.any (fun p => (G p).isEmpty) = true
  · -- some base accepts every call: own groups would have been refused
    have hne : (!provs.isEmpty) = true := by
      cases provs with
      | nil => cases hany
      | cons _ _ => rfl
    have hown : ownPre w f = [] :=
      Decidable.byContradiction (fun ho => (decorateOne_spec hdec).1 ⟨if_pos hany, hne, ho⟩)
    rw [if_pos hany] at hdec ⊢
    have st := hf.collapse hdec (fun _ h => nomatch h) hbsp
    have := hf.pre
    rw [preOf_eq, hown] at this
    rw [← this] at st
    exact st
  · rw [if_neg hany] at hdec ⊢
    exact hG ▸ hf.collapse hdec hX hbsp

theorem member_accepts {ι : Type} {w : World} {key : String} {f : FnId} {bases : List ClsId} {provs : List ι}
    {fn : ι → FnId} {G : ι → List (List Nat)} {S P : ι → List Nat}
    (hb : bases.filterMap (fun b => lookupMember w b key) = provs.map (fun p => Member.func (fn p)))
    (hp : ∀ p ∈ provs, FnSt w (fn p) (G p) (S p) (P p))
    (hG : ∀ p ∈ provs, G p ≠ []) (hnd : ((provs.flatMap S ++ snapsOf w f).map (snapName w)).Nodup) :
    ∃ w', decorateOne w key f true (collectBases w bases key) = .ok w' := by
  obtain ⟨X, _, hX, hcb⟩ := collectBases_shown hb hp
  rw [hcb]
  refine decorateOne_accepts ?_ hnd
  rintro ⟨h1, hv, _⟩
  cases provs with
  | nil => cases hv
  | cons p provs =>
    have hany : (p :: provs).any (fun p => (G p).isEmpty) = false :=
      List.any_eq_false.mpr (fun q hq e => hG q hq (List.isEmpty_iff.mp e))
    rw [hany, if_neg Bool.false_ne_true] at h1
    rw [h1, List.flatMap_cons] at hX
    exact hG p List.mem_cons_self (List.append_eq_nil_iff.mp hX.symm).1

end Icontract.Meta
