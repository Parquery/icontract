/-
  The class-invariant theorem over arbitrary inheritance graphs (`C04_dag_invariants_are_the_ancestors`,
  `C17_dag_foreign_invariants_never_arrive`): histories built by `buildHistI` (Spec/DagHistoryInv.lean).

  `Inv` in `IInv`, `HInv` (as in `DagInv`) is the invariant of the induction over the history, in `lookupInv`, `invOf`,
  `collapseInv` the class invariants of icontract; `I`: about those (`IClsOk`: one class), `H`: of a whole history.
  The invariant over the defined prefix (`IInv`) only speaks about what the theorem needs of a class - its id, its MRO
  and its three invariant references - so that `addInvariantChecks` (which re-binds members) is a no-op for it
  (`ClsSame`).  For every defined class: either no class of its MRO has invariant lists and no ancestor declares an
  invariant, or the class owns three cells (shared with no other class) whose contents are, as sets, the declarations
  of the classes of its MRO.  Either way what the class shows is what its MRO declares (`IInv.mem_invOf`, the theorem
  itself); the steps use the invariant through that and its companions (`IInv.three_or_none`, `IInv.lookup_lt`).
-/
import IcontractModel.Lemmas.DagLemmas
namespace Icontract.Meta

/-- the two worlds show the same MROs and invariant references: all that `IInv` reads of the class table -/
def ClsSame (w w' : World) : Prop :=
  ∀ j, (w'.cls? j).map (·.mro) = (w.cls? j).map (·.mro) ∧
    ∀ d, (w'.cls? j).bind (·.invRef d) = (w.cls? j).bind (·.invRef d)

theorem ClsSame.of_classes {w w' : World} (h : w'.classes = w.classes) : ClsSame w w' := by
  intro j
  simp only [cls?_of_classes h, true_and, implies_true]

theorem ClsSame.symm {w w' : World} (h : ClsSame w w') : ClsSame w' w :=
  fun j => ⟨(h j).1.symm, fun d => ((h j).2 d).symm⟩

theorem ClsSame.cls {w w' : World} (h : ClsSame w w') {j : ClsId} {c : Cls} (hc : w.cls? j = some c) :
    ∃ c', w'.cls? j = some c' ∧ c'.mro = c.mro ∧ ∀ d, c'.invRef d = c.invRef d := by
  obtain ⟨h1, h2⟩ := h j
  rw [hc] at h1 h2
  obtain ⟨c', hc', hm⟩ := Option.map_eq_some_iff.mp h1
  rw [hc'] at h2
  exact ⟨c', hc', hm, h2⟩

theorem ClsSame.lookupInv_eq {w w' : World} (h : ClsSame w w') (k : ClsId) (d : InvDunder) :
    lookupInv w' k d = lookupInv w k d :=
  lookupInv_congr (by simp only [mroOf, (h k).1]) (fun a _ => (h a).2 d)

theorem addInvariantChecks_same (w : World) (k : ClsId) : ClsSame w (addInvariantChecks w k) := by
  rcases addInvariantChecks_cases w k with h | ⟨c, ns, wr, hc, h⟩ <;> rw [h]
  · exact ClsSame.of_classes rfl
  · have hid : ({ c with ns := ns, wrapped := wr } : Cls).id = k := (cls?_id hc : c.id = k)
    intro j
    by_cases hj : j = k
    · rw [hj, setCls_cls?_self hc hid, hc]
      exact ⟨rfl, fun d => by cases d <;> rfl⟩
    · rw [setCls_cls?_ne w j (by rw [hid]; exact hj)]
      exact ⟨rfl, fun _ => rfl⟩

/-- what each class declares, per event -/
abbrev Decl := Nat → InvDunder → List CId

/-- `st`: either no list is reachable from the class and nothing is declared along its MRO, or the class owns three
cells whose contents are, as sets, what its MRO declares -/
structure IClsOk (w : World) (decl : Decl) (k : Nat) (c : Cls) : Prop where
  head : ∃ rest, c.mro = k :: rest
  mroBd : ∀ a : Nat, a ∈ c.mro → 1 ≤ a ∧ a ≤ k
  st : ((∀ d, lookupInv w k d = none) ∧ (∀ a ∈ c.mro, ∀ d, decl a d = [])) ∨
       ∃ r : InvDunder → Nat, (∀ d, c.invRef d = some (r d)) ∧ (∀ d, r d < w.heap.length) ∧
         ∀ d x, x ∈ w.heap.get (r d) ↔ ∃ a ∈ c.mro, x ∈ decl a d

/-- `sep`: a reference determines its class and its list -/
structure IInv (w : World) (n : Nat) (decl : Decl) : Prop where
  clsNone : ∀ i, (i = 0 ∨ n < i) → w.cls? i = none
  clsSome : ∀ k, 1 ≤ k → k ≤ n → ∃ c, w.cls? k = some c ∧ IClsOk w decl k c
  sep : ∀ k k' c c' d d' r, w.cls? k = some c → w.cls? k' = some c' → c.invRef d = some r →
    c'.invRef d' = some r → k = k' ∧ d = d'

section
variable {w : World} {decl : Decl} {k : Nat} {c : Cls}

theorem IClsOk.self_mem (ok : IClsOk w decl k c) : k ∈ c.mro := by
  obtain ⟨rest, h⟩ := ok.head
  rw [h]; exact List.mem_cons_self

theorem IClsOk.lookupInv_eq (ok : IClsOk w decl k c) (hc : w.cls? k = some c) (d : InvDunder) :
    lookupInv w k d = c.invRef d := by
  obtain ⟨rest, h⟩ := ok.head
  rcases ok.st with ⟨hn, _⟩ | ⟨r, g1, _, _⟩
  · have := (lookupInv_none_iff w k d).mp (hn d) k (by rw [mroOf_eq hc]; exact ok.self_mem)
    rw [hn d, ← this, hc]
    rfl
  · rw [g1 d]
    exact lookupInv_own hc (by rw [h]; rfl) d (g1 d)

theorem IClsOk.ref_lt (ok : IClsOk w decl k c) (hc : w.cls? k = some c) {d : InvDunder} {r : Nat}
    (h : c.invRef d = some r) : r < w.heap.length := by
  rcases ok.st with ⟨hn, _⟩ | ⟨rr, h1, h2, _⟩
  · rw [← ok.lookupInv_eq hc, hn d] at h; cases h
  · rw [h1 d] at h
    cases h
    exact h2 d

theorem IClsOk.mem_invOf (ok : IClsOk w decl k c) (hc : w.cls? k = some c) (d : InvDunder) (x : Nat) :
    x ∈ invOf w k d ↔ ∃ a ∈ c.mro, x ∈ decl a d := by
  rcases ok.st with ⟨hn, he⟩ | ⟨r, g1, _, g3⟩
  · rw [invOf_none (hn d)]
    exact ⟨fun h => absurd h List.not_mem_nil, fun ⟨a, ha, hx⟩ => absurd (he a ha d ▸ hx) List.not_mem_nil⟩
  · simp only [invOf, ok.lookupInv_eq hc, g1 d]
    exact g3 d x

end

theorem IClsOk.transfer {w w' : World} {decl decl' : Decl} {k : Nat} {c c' : Cls} (ok : IClsOk w decl k c)
    (hm : c'.mro = c.mro) (hr : ∀ d, c'.invRef d = c.invRef d)
    (hl : ∀ d, lookupInv w' k d = lookupInv w k d) (hlen : w.heap.length ≤ w'.heap.length)
    (hkeep : ∀ d r, c.invRef d = some r → w'.heap.get r = w.heap.get r)
    (hdecl : ∀ a ∈ c.mro, decl' a = decl a) : IClsOk w' decl' k c' := by
  refine ⟨hm ▸ ok.head, hm ▸ ok.mroBd, ?_⟩
  rw [hm]
  rcases ok.st with ⟨hn, he⟩ | ⟨r, g1, g2, g3⟩
  · exact Or.inl ⟨fun d => (hl d).trans (hn d), fun a ha d => by rw [hdecl a ha]; exact he a ha d⟩
  · refine Or.inr ⟨r, fun d => (hr d).trans (g1 d), fun d => Nat.lt_of_lt_of_le (g2 d) hlen, fun d x => ?_⟩
    rw [hkeep d _ (g1 d), g3]
    exact ⟨fun ⟨a, ha, h⟩ => ⟨a, ha, hdecl a ha ▸ h⟩, fun ⟨a, ha, h⟩ => ⟨a, ha, (hdecl a ha).symm ▸ h⟩⟩

section
variable {w : World} {n : Nat} {decl : Decl} (inv : IInv w n decl)
include inv

theorem IInv.ref_lt {k : Nat} {c : Cls} (hc : w.cls? k = some c) {d : InvDunder} {r : Nat}
    (h : c.invRef d = some r) : r < w.heap.length := by
  by_cases hk : k = 0 ∨ n < k
  · rw [inv.clsNone k hk] at hc; cases hc
  · obtain ⟨c', hc', ok⟩ := inv.clsSome k (Nat.pos_of_ne_zero (fun e => hk (Or.inl e)))
      (Nat.le_of_not_lt (fun e => hk (Or.inr e)))
    rw [hc] at hc'
    cases hc'
    exact ok.ref_lt hc h

variable {k : Nat} (h1 : 1 ≤ k) (h2 : k ≤ n)
include h1 h2

theorem IInv.self_mem_mroOf : k ∈ mroOf w k := by
  obtain ⟨c, hc, ok⟩ := inv.clsSome k h1 h2
  rw [mroOf_eq hc]
  exact ok.self_mem

theorem IInv.mroOf_bounds : ∀ a : Nat, a ∈ mroOf w k → 1 ≤ a ∧ a ≤ k := by
  obtain ⟨c, hc, ok⟩ := inv.clsSome k h1 h2
  rw [mroOf_eq hc]
  exact ok.mroBd

theorem IInv.lookup_lt {d : InvDunder} {r : Nat} (h : lookupInv w k d = some r) : r < w.heap.length := by
  obtain ⟨c, hc, ok⟩ := inv.clsSome k h1 h2
  rw [ok.lookupInv_eq hc] at h
  exact ok.ref_lt hc h

theorem IInv.three_or_none : (∀ d, lookupInv w k d = none) ∨ ∀ d, (lookupInv w k d).isSome = true := by
  obtain ⟨c, hc, ok⟩ := inv.clsSome k h1 h2
  rcases ok.st with ⟨hn, _⟩ | ⟨r, g1, _, _⟩
  · exact Or.inl hn
  · exact Or.inr (fun d => by rw [ok.lookupInv_eq hc, g1 d]; rfl)

end

theorem IInv.mem_invOf {w : World} {n : Nat} {decl : Decl} (inv : IInv w n decl) {k : Nat} (h1 : 1 ≤ k) (h2 : k ≤ n)
    (d : InvDunder) (x : Nat) : x ∈ invOf w k d ↔ ∃ a ∈ mroOf w k, x ∈ decl a d := by
  obtain ⟨c, hc, ok⟩ := inv.clsSome k h1 h2
  rw [mroOf_eq hc]
  exact ok.mem_invOf hc d x

theorem IInv.same {w w' : World} {n : Nat} {decl decl' : Decl} (inv : IInv w n decl) (hs : ClsSame w w')
    (hp : HPres w.heap w'.heap) (hd : ∀ x, 1 ≤ x → x ≤ n → decl' x = decl x) : IInv w' n decl' := by
  refine ⟨fun i hi => ?_, fun k h1 h2 => ?_, ?_⟩
  · have := (hs i).1
    rw [inv.clsNone i hi] at this
    exact Option.map_eq_none_iff.mp this
  · obtain ⟨c, hc, ok⟩ := inv.clsSome k h1 h2
    obtain ⟨c', hc', hm, hr⟩ := hs.cls hc
    exact ⟨c', hc', ok.transfer hm hr (hs.lookupInv_eq k) hp.2 (fun d r h => hp.1 r (ok.ref_lt hc h))
      (fun x hx => hd x (ok.mroBd x hx).1 (Nat.le_trans (ok.mroBd x hx).2 h2))⟩
  · intro k k' c c' d d' r hc hc' hr hr'
    obtain ⟨c0, g1, _, g3⟩ := hs.symm.cls hc
    obtain ⟨c0', g1', _, g3'⟩ := hs.symm.cls hc'
    exact inv.sep k k' c0 c0' d d' r g1 g1' ((g3 d).trans hr) ((g3' d').trans hr')

theorem IInv.addInvariantChecks {w : World} {n : Nat} {decl : Decl} (inv : IInv w n decl) (k : ClsId) :
    IInv (addInvariantChecks w k) n decl :=
  inv.same (addInvariantChecks_same w k) (by rw [addInvariantChecks_heap]; exact HPres.refl _) (fun _ _ _ => rfl)

/-- class `m` - the newest one, or a new one - is (re)bound, possibly with new declarations; what the invariant says
of the other classes is kept as long as their cells are -/
theorem IInv.update {w wf : World} {n m : Nat} {decl decl' : Decl} (inv : IInv w n decl)
    (hnm : n ≤ m) (hmn : m ≤ n + 1) (hm1 : 1 ≤ m)
    {cls' : Cls} (hc' : wf.cls? m = some cls')
    (hold : ∀ j : Nat, j ≠ m → wf.cls? j = w.cls? j)
    (hlen : w.heap.length ≤ wf.heap.length)
    (hkeep : ∀ (j : Nat) cj d (r : Nat), j ≠ m → w.cls? j = some cj → cj.invRef d = some r →
      wf.heap.get r = w.heap.get r)
    (ok : IClsOk wf decl' m cls')
    (hdecl : ∀ a : Nat, 1 ≤ a → a < m → decl' a = decl a)
    (hsep : ∀ (j : Nat) cj d d' (r : Nat), wf.cls? j = some cj → cj.invRef d = some r →
      cls'.invRef d' = some r → j = m ∧ d = d') :
    IInv wf m decl' := by
  refine ⟨fun i hi => ?_, fun k h1 h2 => ?_, ?_⟩
  · have him : i ≠ m := fun e => hi.elim (fun h0 => Nat.ne_of_gt hm1 (e.symm.trans h0)) (fun h => Nat.ne_of_gt h e)
    rw [hold i him]
    exact inv.clsNone i (hi.imp_right (Nat.lt_of_le_of_lt hnm))
  · by_cases hk : k = m
    · subst hk
      exact ⟨cls', hc', ok⟩
    · have hkm : k < m := Nat.lt_of_le_of_ne h2 hk
      obtain ⟨c, hc, okc⟩ := inv.clsSome k h1 (Nat.le_of_lt_succ (Nat.lt_of_lt_of_le hkm hmn))
      have hlt : ∀ x : Nat, x ∈ c.mro → 1 ≤ x ∧ x < m := fun x hx =>
        ⟨(okc.mroBd x hx).1, Nat.lt_of_le_of_lt (okc.mroBd x hx).2 hkm⟩
      refine ⟨c, (hold k hk).trans hc, okc.transfer rfl (fun _ => rfl) (fun d => ?_) hlen
        (fun d r hr => hkeep k c d r hk hc hr) (fun x hx => hdecl x (hlt x hx).1 (hlt x hx).2)⟩
      have hm' : mroOf wf k = mroOf w k := by simp only [mroOf, hold k hk]
      refine lookupInv_congr hm' (fun a ha => ?_)
      rw [mroOf_eq hc] at ha
      rw [hold a (Nat.ne_of_lt (hlt a ha).2)]
  · intro k k' c c' d d' r hc hc1 hr hr'
    by_cases hk' : k' = m
    · subst hk'
      cases hc'.symm.trans hc1
      exact hsep k c d d' r hc hr hr'
    · by_cases hk : k = m
      · subst hk
        cases hc'.symm.trans hc
        exact absurd (hsep k' c' d' d r hc1 hr' hr).1 hk'
      · rw [hold k hk] at hc
        rw [hold k' hk'] at hc1
        exact inv.sep k k' c c' d d' r hc hc1 hr hr'

theorem IInv.fresh {w wf : World} {n m : Nat} {decl : Decl} (inv : IInv w n decl)
    (hnm : n ≤ m) (hmn : m ≤ n + 1) (hm1 : 1 ≤ m) {cls' : Cls} (hc' : wf.cls? m = some cls')
    (hold : ∀ j : Nat, j ≠ m → wf.cls? j = w.cls? j) (hp : HPres w.heap wf.heap)
    (ok : IClsOk wf decl m cls') (hfresh : ∀ d r, cls'.invRef d = some r → w.heap.length ≤ r)
    (hinj : ∀ d d' r, cls'.invRef d = some r → cls'.invRef d' = some r → d = d') :
    IInv wf m decl := by
  refine inv.update hnm hmn hm1 hc' hold hp.2 ?_ ok (fun _ _ _ => rfl) ?_
  · intro j cj d r _ hcj hr
    exact hp.1 r (inv.ref_lt hcj hr)
  · intro j cj d d' r hcj hr hr'
    by_cases hj : j = m
    · subst hj
      cases hc'.symm.trans hcj
      exact ⟨rfl, hinj d d' r hr hr'⟩
    · rw [hold j hj] at hcj
      exact absurd (inv.ref_lt hcj hr) (Nat.not_lt_of_le (hfresh d' r hr'))

theorem IInv.extend {w w3 : World} {n : Nat} {decl : Decl} (inv : IInv w n decl) (cnew : Cls)
    (hold : ∀ j, j ≠ n + 1 → w3.cls? j = w.cls? j) (hnew : w3.cls? (n + 1) = some cnew)
    (hp : HPres w.heap w3.heap) (ok : IClsOk w3 decl (n + 1) cnew)
    (hfresh : ∀ d r, cnew.invRef d = some r → w.heap.length ≤ r)
    (hinj : ∀ d d' r, cnew.invRef d = some r → cnew.invRef d' = some r → d = d') :
    IInv w3 (n + 1) decl :=
  inv.fresh (Nat.le_succ n) (Nat.le_refl _) (Nat.succ_le_succ (Nat.zero_le _)) hnew hold hp ok hfresh hinj

theorem IInv.defineClass {w w' : World} {n : Nat} {decl : Decl} (inv : IInv w n decl)
    (bases : List ClsId) (ns : List (String × Member)) (hb : ∀ b ∈ bases, 1 ≤ b ∧ b ≤ n)
    (hd : ∀ d, decl (n + 1) d = [])
    (h : defineClass w (n + 1) bases ns true = .ok w') : IInv w' (n + 1) decl := by
  obtain ⟨w2, mro, hpass, hmro, rfl⟩ := defineClass_ok h
  have fr := nsPass_frame hpass
  have frc := (col3_frame w bases).1
  suffices hmain : IInv (withCls w2 (newCI (n + 1) bases ns mro (col1 w bases).2 (col2 w bases).2
      (col3 w bases).2)) (n + 1) decl by
    rcases finishCls_cases (withCls w2 _) (n + 1) with e | e <;> rw [e]
    · exact hmain
    · exact hmain.addInvariantChecks _
  have hcls2 : w2.classes = w.classes := fr.classes.trans frc.classes
  have e2 := cls?_of_classes hcls2
  generalize hcn : newCI (n + 1) bases ns mro (col1 w bases).2 (col2 w bases).2 (col3 w bases).2 = cnew
  have hid : cnew.id = n + 1 := by rw [← hcn]; rfl
  have hcm : cnew.mro = mro := by rw [← hcn]; rfl
  have hold : ∀ j : Nat, j ≠ n + 1 → (withCls w2 cnew).cls? j = w.cls? j := by
    intro j hj
    rw [withCls_cls?, e2, hid, if_neg (fun e => hj e.symm), Option.or_none]
  have hnew : (withCls w2 cnew).cls? (n + 1) = some cnew := by
    rw [withCls_cls?, e2, hid, inv.clsNone (n + 1) (Or.inr (Nat.lt_succ_self n)), if_pos rfl]
    rfl
  -- the MRO: the new class, then what the MROs of the bases hold; so its classes declare what the bases show
  have hmro' : computeMro w (n + 1) bases = some cnew.mro := by
    rw [hcm, ← hmro, computeMro_classes hcls2]
  have hhead : ∃ rest, cnew.mro = (n + 1) :: rest := (computeMro_spec hmro').imp (fun _ h => h.1)
  have hmem := mem_computeMro hmro' (fun b hbb => inv.self_mem_mroOf (hb b hbb).1 (hb b hbb).2)
  have hbd : ∀ a ∈ cnew.mro, 1 ≤ a ∧ a ≤ n + 1 := by
    intro a ha
    rcases (hmem a).mp ha with rfl | ⟨b, hbb, hab⟩
    · exact ⟨Nat.succ_le_succ (Nat.zero_le _), Nat.le_refl _⟩
    · have hab' := inv.mroOf_bounds (hb b hbb).1 (hb b hbb).2 a hab
      exact ⟨hab'.1, Nat.le_succ_of_le (Nat.le_trans hab'.2 (hb b hbb).2)⟩
  have hshow : ∀ d x, (∃ a ∈ cnew.mro, x ∈ decl a d) ↔ ∃ b ∈ bases, x ∈ invOf w b d := by
    intro d x
    constructor
    · rintro ⟨a, ha, hx⟩
      rcases (hmem a).mp ha with rfl | ⟨b, hbb, hab⟩
      · rw [hd d] at hx; cases hx
      · exact ⟨b, hbb, (inv.mem_invOf (hb b hbb).1 (hb b hbb).2 d x).mpr ⟨a, hab, hx⟩⟩
    · rintro ⟨b, hbb, hx⟩
      obtain ⟨a, hab, hxa⟩ := (inv.mem_invOf (hb b hbb).1 (hb b hbb).2 d x).mp hx
      exact ⟨a, (hmem a).mpr (Or.inr ⟨b, hbb, hab⟩), hxa⟩
  by_cases hsome : ∃ b ∈ bases, ∀ d, (lookupInv w b d).isSome = true
  case neg =>
    -- no base shows a list: the class has none, and nothing is declared along its MRO
    have hnone : ∀ b ∈ bases, ∀ d, lookupInv w b d = none := fun b hbb =>
      (inv.three_or_none (hb b hbb).1 (hb b hbb).2).resolve_right (fun hs => hsome ⟨b, hbb, hs⟩)
    obtain ⟨c1, c2, c3⟩ := col3_none hnone
    have href : ∀ d, cnew.invRef d = none := by
      rw [← hcn]
      exact fun | .all => congrArg Prod.snd c1 | .onCall => congrArg Prod.snd c2 | .onSetattr => congrArg Prod.snd c3
    refine inv.extend cnew hold hnew (frc.heap.trans fr.heap)
      ⟨hhead, hbd, Or.inl ⟨fun d => ?_, fun a ha d => ?_⟩⟩
      (fun d r hr => by rw [href d] at hr; cases hr) (fun d _ r hr => by rw [href d] at hr; cases hr)
    · rw [lookupInv_none_iff, mroOf_eq hnew]
      intro a ha
      by_cases hne : a = n + 1
      · rw [hne, hnew]
        exact href d
      · obtain ⟨b, hbb, hab⟩ := ((hmem a).mp ha).resolve_left hne
        rw [hold a hne]
        exact (lookupInv_none_iff w b d).mp (hnone b hbb d) a hab
    · apply List.eq_nil_iff_forall_not_mem.mpr
      intro x hx
      obtain ⟨b, hbb, hxb⟩ := (hshow d x).mp ⟨a, ha, hx⟩
      rw [invOf_none (hnone b hbb d)] at hxb
      cases hxb
  case pos =>
    -- some base shows its lists: three fresh cells holding what the bases show
    obtain ⟨hw3, c1, c2, c3⟩ := col3_some
      (fun b hbb _ _ => inv.lookup_lt (hb b hbb).1 (hb b hbb).2) hsome
    have href : ∀ d, cnew.invRef d = some (refsAt w.heap.length d) := by
      rw [← hcn]
      exact fun | .all => c1 | .onCall => c2 | .onSetattr => c3
    have hlt : ∀ d, refsAt w.heap.length d < (col3 w bases).1.heap.length := by
      intro d
      rw [hw3, List.length_append]
      exact (refsAt_bounds w.heap.length d).2
    refine inv.extend cnew hold hnew (frc.heap.trans fr.heap) ⟨hhead, hbd,
      Or.inr ⟨refsAt w.heap.length, href, fun d => Nat.lt_of_lt_of_le (hlt d) fr.heap.2, fun d x => ?_⟩⟩
      (fun d r hr => by rw [href d] at hr; cases hr; exact (refsAt_bounds _ d).1)
      (fun d d' r hr hr' => by
        rw [href d] at hr
        rw [href d', ← hr] at hr'
        exact refsAt_inj (Option.some.inj hr').symm)
    show x ∈ w2.heap.get (refsAt w.heap.length d) ↔ _
    rw [fr.heap.1 _ (hlt d), hw3, hshow d x,
      Heap.get_refsAt w.heap (fun d => bases.flatMap (fun b => invOf w b d)) d, List.mem_flatMap]

theorem IInv.prepare {w : World} {n : Nat} {decl : Decl} (inv : IInv w n decl) (hn : 1 ≤ n)
    {cls : Cls} (hc : w.cls? n = some cls) :
    IInv (prepareInv w n cls) n decl ∧ ∀ d, lookupInv (prepareInv w n cls) n d = some (invRefs w n d) := by
  obtain ⟨cls0, hc0, ok⟩ := inv.clsSome n hn (Nat.le_refl _)
  rw [hc] at hc0
  cases hc0
  rcases ok.st with ⟨hn0, he⟩ | ⟨r, g1, _, _⟩
  · -- no list is reachable and no ancestor declares anything: three fresh empty cells
    rw [prepareInv_none cls (hn0 .all), invRefs_none (hn0 .all)]
    generalize hwf : setCls { w with heap := w.heap ++ [[], [], []] } (withRefs cls w.heap.length) = wf
    have hid : (withRefs cls w.heap.length).id = n := (cls?_id hc : cls.id = n)
    have hheap : wf.heap = w.heap ++ [[], [], []] := by rw [← hwf]; rfl
    have hcn : wf.cls? n = some (withRefs cls w.heap.length) := by
      rw [← hwf]; exact setCls_cls?_self hc hid
    have ok' : IClsOk wf decl n (withRefs cls w.heap.length) := by
      refine ⟨ok.head, ok.mroBd, Or.inr ⟨_, withRefs_invRef cls _, fun d => ?_, fun d x => ?_⟩⟩
      · rw [hheap, List.length_append]
        exact (refsAt_bounds w.heap.length d).2
      · rw [hheap, Heap.get_refsAt w.heap (fun _ => []) d]
        exact ⟨fun h => absurd h List.not_mem_nil, fun ⟨a, ha, hx⟩ => absurd (he a ha d ▸ hx) List.not_mem_nil⟩
    refine ⟨inv.fresh (Nat.le_refl n) (Nat.le_succ n) hn hcn
      (fun j hj => by rw [← hwf]; exact setCls_cls?_ne _ j (by rw [hid]; exact hj))
      (by rw [hheap]; exact HPres.app) ok' (fun d r hr => ?_) (fun d d' r hr hr' => ?_), fun d => ?_⟩
    · rw [withRefs_invRef] at hr
      cases hr
      exact (refsAt_bounds _ d).1
    · rw [withRefs_invRef] at hr hr'
      exact refsAt_inj (Option.some.inj (hr.trans hr'.symm))
    · rw [ok'.lookupInv_eq hcn, withRefs_invRef]
  · -- the class owns its lists
    have hl : ∀ d, lookupInv w n d = some (r d) := fun d => (ok.lookupInv_eq hc d).trans (g1 d)
    rw [prepareInv_some cls (hl .all)]
    exact ⟨inv, fun d => by rw [invRefs_some (hl .all), hl d]; rfl⟩

theorem IInv.append {w wf : World} {n : Nat} {decl decl' : Decl} (inv : IInv w n decl) (hn : 1 ≤ n)
    (c : CId) (on : CheckOn)
    (hdecl : ∀ a : Nat, 1 ≤ a → a < n → decl' a = decl a)
    (hnew : ∀ d x, x ∈ decl' n d ↔ x ∈ decl n d ∨ (x = c ∧ on.applies d = true))
    {r : InvDunder → Nat} (hl : ∀ d, lookupInv w n d = some (r d))
    (hcl : wf.classes = w.classes) (hh : wf.heap = Heap.app3 w.heap r on c) :
    IInv wf n decl' := by
  obtain ⟨cls, hc, ok⟩ := inv.clsSome n hn (Nat.le_refl _)
  have g1 : ∀ d, cls.invRef d = some (r d) := fun d => (ok.lookupInv_eq hc d).symm.trans (hl d)
  have g2 : ∀ d, r d < w.heap.length := fun d => ok.ref_lt hc (g1 d)
  have ecls := cls?_of_classes hcl
  have hinjr : ∀ d d', r d = r d' → d = d' := fun d d' hdd =>
    (inv.sep n n cls cls d d' (r d) hc hc (g1 d) (by rw [g1 d', hdd])).2
  refine inv.update (Nat.le_refl n) (Nat.le_succ n) hn ((ecls n).trans hc) (fun j _ => ecls j) ?_ ?_
    ⟨ok.head, ok.mroBd, Or.inr ⟨r, g1, ?_, fun d x => ?_⟩⟩ hdecl
    (fun j cj d d' r0 hcj hr0 hr' => inv.sep j n cj cls d d' r0 ((ecls j).symm.trans hcj) hc hr0 hr')
  · rw [hh, Heap.app3_length]
    exact Nat.le_refl _
  · intro j cj d r0 hj hcj hr0
    rw [hh, Heap.app3_other (fun d' hE => hj (inv.sep j n cj cls d d' r0 hcj hc hr0 (by rw [g1 d', hE])).1)]
  · intro d
    rw [hh, Heap.app3_length]
    exact g2 d
  · have hget : w.heap.get (r d) = invOf w n d := by simp only [invOf, hl d]
    rw [hh, Heap.app3_self g2 hinjr d, mem_append_ite_singleton, hget, ok.mem_invOf hc d x]
    constructor
    · rintro (⟨a, ha, hx⟩ | h)
      · by_cases han : a = n
        · exact ⟨a, ha, by rw [han]; exact (hnew d x).mpr (Or.inl (han ▸ hx))⟩
        · exact ⟨a, ha, by rw [hdecl a (ok.mroBd a ha).1 (Nat.lt_of_le_of_ne (ok.mroBd a ha).2 han)]; exact hx⟩
      · exact ⟨n, ok.self_mem, (hnew d x).mpr (Or.inr h)⟩
    · rintro ⟨a, ha, hx⟩
      by_cases han : a = n
      · rw [han] at hx
        exact ((hnew d x).mp hx).imp (fun h => ⟨n, ok.self_mem, h⟩) id
      · rw [hdecl a (ok.mroBd a ha).1 (Nat.lt_of_le_of_ne (ok.mroBd a ha).2 han)] at hx
        exact Or.inl ⟨a, ha, hx⟩

theorem IInv.addInv {w : World} {n : Nat} {decl decl' : Decl} (inv : IInv w n decl) (hn : 1 ≤ n)
    (c : CId) (on : CheckOn)
    (hdecl : ∀ a : Nat, 1 ≤ a → a < n → decl' a = decl a)
    (hnew : ∀ d x, x ∈ decl' n d ↔ x ∈ decl n d ∨ (x = c ∧ on.applies d = true)) :
    IInv (addInvariant w n c on) n decl' := by
  obtain ⟨cls, hc, _⟩ := inv.clsSome n hn (Nat.le_refl _)
  obtain ⟨inv1, hl⟩ := inv.prepare hn hc
  rw [addInvariant_eq c on hc]
  apply IInv.addInvariantChecks
  exact inv1.append hn c on hdecl hnew hl rfl rfl

def declOf (ds : List ClassDefI) : Decl := fun a d => ownInvOn ds (a - 1) d

theorem ownInvOn_append_lt (done rest : List ClassDefI) (j : Nat) (h : j < done.length) :
    ownInvOn (done ++ rest) j = ownInvOn done j := by
  funext d
  simp only [ownInvOn, List.getElem?_append_left h]

theorem declOf_append_le {done rest : List ClassDefI} {a : Nat} (h1 : 1 ≤ a) (h2 : a ≤ done.length) :
    declOf (done ++ rest) a = declOf done a :=
  ownInvOn_append_lt done rest (a - 1) (Nat.sub_one_lt_of_le h1 h2)

theorem declOf_snoc_last (done : List ClassDefI) (x : ClassDefI) (d : InvDunder) :
    declOf (done ++ [x]) (done.length + 1) d = (x.invs.filter (fun p => p.2.applies d)).map (·.1) := by
  simp only [declOf, ownInvOn, Nat.add_sub_cancel, List.getElem?_append_right (Nat.le_refl _), Nat.sub_self,
    List.getElem?_cons_zero]
  cases d <;> rfl

theorem allLevelsI_snoc (done : List ClassDefI) (d : ClassDefI) :
    allLevelsI (done ++ [d]) = allLevelsI done ++ d.members.map (·.2) := by
  simp [allLevelsI, List.flatMap_append]

theorem allLevelsI_fns (ds : List ClassDefI) :
    (allLevelsI ds).map (·.f) = ds.flatMap (fun d => d.members.map (·.2.f)) := by
  simp only [allLevelsI, List.map_flatMap, List.map_map]
  rfl

/-- what `buildHistI` keeps class by class: `IInv` for what the history declares, and no checker outside it -/
structure HInv (done : List ClassDefI) (w : World) : Prop where
  inv : IInv w done.length (declOf done)
  ckNone : ∀ f, f ∉ (allLevelsI done).map (·.f) → w.checker? f = none

theorem HInv.empty : HInv [] {} :=
  ⟨⟨fun _ _ => rfl, fun k h1 h2 => absurd (Nat.le_trans h1 h2) (by decide), fun _ _ _ _ _ _ _ hc => nomatch hc⟩,
    fun _ _ => rfl⟩

theorem addInv_fold {done : List ClassDefI} {b : List ClsId} {m : List (String × ChainLevel)}
    (rest : List (CId × CheckOn)) {pre : List (CId × CheckOn)} {w : World}
    (h : IInv w (done.length + 1) (declOf (done ++ [⟨b, m, pre⟩]))) :
    IInv (rest.foldl (fun w p => addInvariant w (done.length + 1) p.1 p.2) w) (done.length + 1)
      (declOf (done ++ [⟨b, m, pre ++ rest⟩])) := by
  -- `ClassDefI.mk`, not `⟨b, m, pre⟩`: the anonymous constructor is elaborated last, and until then every unification
  -- against the motive fails after unfolding `declOf`
  refine foldl_snoc_ind (P := fun pre w => IInv w (done.length + 1) (declOf (done ++ [ClassDefI.mk b m pre])))
    (fun pre w p h => ?_) rest pre w h
  apply h.addInv (Nat.succ_le_succ (Nat.zero_le _)) p.1 p.2
  · intro a h1 h2
    rw [declOf_append_le h1 (Nat.le_of_lt_succ h2), declOf_append_le h1 (Nat.le_of_lt_succ h2)]
  · intro d x
    rw [declOf_snoc_last, declOf_snoc_last]
    simp only [List.filter_append, List.map_append, List.mem_append]
    refine or_congr_right ?_
    cases hp : p.2.applies d <;> simp [List.filter, hp]

theorem histI_step {done : List ClassDefI} {d : ClassDefI} {w w1 : World} (inv : HInv done w)
    (hfresh : ∀ f ∈ d.members.map (·.2.f), f ∉ (allLevelsI done).map (·.f))
    (hnd : (d.members.map (·.2.f)).Nodup)
    (hb : ∀ b ∈ d.bases, 1 ≤ b ∧ b ≤ done.length)
    (h : defineClass (declareAll w d.members) (done.length + 1) d.bases
          (d.members.map (fun p => (p.1, Member.func p.2.f))) true = .ok w1) :
    HInv (done ++ [d]) (d.invs.foldl (fun w p => addInvariant w (done.length + 1) p.1 p.2) w1) := by
  obtain ⟨fr01, _⟩ := declareAll_spec w hnd (fun p hp => inv.ckNone _ (hfresh _ (List.mem_map.mpr ⟨p, hp, rfl⟩)))
  have inv0 : IInv (declareAll w d.members) done.length (declOf (done ++ [⟨d.bases, d.members, []⟩])) :=
    inv.inv.same (ClsSame.of_classes fr01.classes) fr01.heap (fun x h1 h2 => declOf_append_le h1 h2)
  have inv1 := inv0.defineClass d.bases _ hb (fun dd => by rw [declOf_snoc_last]; rfl) h
  have inv2 := addInv_fold d.invs inv1
  have hlen : (done ++ [d]).length = done.length + 1 := List.length_append
  refine ⟨?_, ?_⟩
  · rw [hlen]
    exact inv2
  · intro f hf
    rw [allLevelsI_snoc, List.map_append, List.mem_append, not_or, List.map_map] at hf
    have hsum := (defineClass_frame h).2.1 f (by
      rintro ⟨p, hp, which, hw⟩
      obtain ⟨q, hq, rfl⟩ := List.mem_map.mp hp
      simp only [memberFnId, Option.some.injEq] at hw
      exact hf.2 (List.mem_map.mpr ⟨q, hq, hw⟩))
    have h0 := fr01.checkers f (fun hm => hf.2 hm)
    have hfold : (d.invs.foldl (fun w p => addInvariant w (done.length + 1) p.1 p.2) w1).checkers = w1.checkers :=
      List.foldlRecOn (motive := fun (w' : World) => w'.checkers = w1.checkers) _ _ rfl
        (fun _ e _ _ => (addInvariant_fields _ _ _ _).1.trans e)
    rw [checker?_of_checkers hfold, hsum, h0]
    exact inv.ckNone f hf.1

theorem HistWfI.mid {done : List ClassDefI} {d : ClassDefI} {rest : List ClassDefI}
    (hwf : HistWfI (done ++ d :: rest)) :
    (∀ b ∈ d.bases, 1 ≤ b ∧ b ≤ done.length) ∧ (d.members.map (·.2.f)).Nodup ∧
    ∀ f ∈ d.members.map (·.2.f), f ∉ (allLevelsI done).map (·.f) := by
  obtain ⟨_, _, _, hb⟩ := hwf.2.2 done.length (by simp)
  rw [List.getElem_of_append rfl rfl] at hb
  obtain ⟨hnd, hfr⟩ := nodup_flatMap_mid (fun d : ClassDefI => d.members.map (·.2.f)) done d rest
    (by rw [← allLevelsI_fns]; exact hwf.1)
  exact ⟨hb, hnd, by rw [allLevelsI_fns]; exact hfr⟩

theorem buildHistI_inv : ∀ (rest done : List ClassDefI) (w w' : World),
    HInv done w → HistWfI (done ++ rest) →
    buildHistI w (done.length + 1) rest = .ok w' → HInv (done ++ rest) w' := by
  intro rest
  induction rest with
  | nil =>
    intro done w w' inv _ h
    cases h
    rw [List.append_nil]
    exact inv
  | cons d rest ih =>
    intro done w w' inv hwf h
    obtain ⟨hb, hnd, hfresh⟩ := hwf.mid
    rw [List.append_cons] at hwf ⊢
    simp only [buildHistI] at h
    split at h
    · cases h
    · next w1 h1 =>
      exact ih (done ++ [d]) _ w' (histI_step inv hfresh hnd hb h1) hwf (by rw [List.length_append]; exact h)

theorem buildHistI_IInv {ds : List ClassDefI} (hwf : HistWfI ds) {w : World} (h : buildHistI {} 1 ds = .ok w) :
    IInv w ds.length (declOf ds) := by
  have := (buildHistI_inv ds [] {} w HInv.empty hwf h).inv
  rwa [List.nil_append] at this

theorem ownInvOn_mem {ds : List ClassDefI} {j : Nat} {d : InvDunder} {c : CId} (h : c ∈ ownInvOn ds j d) :
    ∃ hj : j < ds.length, c ∈ (ds[j]).invs.map (·.1) := by
  unfold ownInvOn at h
  by_cases hj : j < ds.length
  · refine ⟨hj, ?_⟩
    rw [List.getElem?_eq_getElem hj] at h
    obtain ⟨p, hp, rfl⟩ := List.mem_map.mp h
    exact List.mem_map.mpr ⟨p, (List.mem_filter.mp hp).1, rfl⟩
  · rw [List.getElem?_eq_none (Nat.le_of_not_lt hj)] at h
    cases h

theorem ownInvOn_idx {ds : List ClassDefI} (hwf : HistWfI ds) {j j' : Nat} {d d' : InvDunder} {c : CId}
    (h : c ∈ ownInvOn ds j d) (h' : c ∈ ownInvOn ds j' d') : j = j' := by
  obtain ⟨hj, hm⟩ := ownInvOn_mem h
  obtain ⟨hj', hm'⟩ := ownInvOn_mem h'
  exact flatMap_nodup_idx hwf.2.1 hj hj' hm hm'

end Icontract.Meta
