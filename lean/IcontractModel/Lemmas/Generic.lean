/-
  The loops of the wrapper, generic in how one condition is evaluated (`ev : Contract → Res Bool`);
  `Lemmas/Instances.lean` shows that the loops of both twins are these.  Both check phases are a loop that
  yields the violated contract, followed by `errOf`, which builds its error.  What a loop yields is proved from
  the outcomes `(ev c).out` alone; what it logs, from what holds of every `(ev c).trace`.  The loops are opened
  through their `_cons` equations.
-/
import IcontractModel.Lemmas.Res
namespace Icontract
open Res

def checkGroupG (ev : Contract → Res Bool) : List Contract → Res (Option Contract)
  | [] => pure none
  | c :: cs => do
      let notCheck ← ev c
      if notCheck then pure (some c)
      else checkGroupG ev cs

def assertPreAuxG (ev : Contract → Res Bool) (last : Option Contract) :
    List (List Contract) → Res (Option Contract)
  | [] => pure last
  | g :: gs => do
      let r ← checkGroupG ev g
      match r with
      | none => pure none
      | some c => assertPreAuxG ev (some c) gs

def errOf (mk : Contract → Res Raised) : Option Contract → Res (Option Raised)
  | some c => do
      let e ← mk c
      pure (some e)
  | none => pure none

section ErrOf
variable (x : Res (Option Contract)) (mk : Contract → Res Raised)

theorem bind_errOf_trace_cases :
    (x >>= errOf mk).trace = x.trace ∨
      ∃ c, x.out = .ok (some c) ∧ (x >>= errOf mk).trace = x.trace ++ (mk c).trace := by
  rcases bind_trace_cases x (errOf mk) with h | ⟨v, hv, h⟩
  · exact .inl h
  · cases v with
    | none => exact .inl (h.trans (List.append_nil _))
    | some c => exact .inr ⟨c, hv, h.trans (congrArg _ bind_pure_trace)⟩

variable {x mk}

theorem bind_errOf_out_none_iff : (x >>= errOf mk).out = .ok none ↔ x.out = .ok none := by
  rw [bind_out_ok_iff]
  constructor
  · rintro ⟨v, hv, h⟩
    cases v with
    | none => exact hv
    | some c =>
      obtain ⟨_, _, h⟩ := bind_out_ok_iff.mp h
      cases h
  · exact fun h => ⟨none, h, rfl⟩

theorem bind_errOf_out_some {c : Contract} {err : Raised} (hx : x.out = .ok (some c))
    (hmk : (mk c).out = .ok err) : (x >>= errOf mk).out = .ok (some err) :=
  (bind_out_of_ok hx).trans ((bind_out_of_ok hmk).trans rfl)

theorem bind_errOf_forall {P : Event → Prop} (hx : ∀ e ∈ x.trace, P e)
    (hmk : ∀ c, ∀ e ∈ (mk c).trace, P e) : ∀ e ∈ (x >>= errOf mk).trace, P e := by
  rcases bind_errOf_trace_cases x mk with h | ⟨c, _, h⟩ <;> rw [h]
  · exact hx
  · exact fun e he => (List.mem_append.mp he).elim (hx e) (hmk c e)

end ErrOf

section Group
variable {ev : Contract → Res Bool}

theorem checkGroupG_cons {c : Contract} {cs : List Contract} :
    checkGroupG ev (c :: cs) = ev c >>= fun notCheck => if notCheck then pure (some c) else checkGroupG ev cs :=
  rfl

theorem checkGroupG_none_iff {g : List Contract} :
    (checkGroupG ev g).out = .ok none ↔ ∀ c ∈ g, (ev c).out = .ok false := by
  induction g with
  | nil => simp [checkGroupG]
  | cons c cs ih =>
    rw [checkGroupG_cons, bind_out_ok_iff, List.forall_mem_cons, ← ih]
    constructor
    · rintro ⟨b, hb, h⟩
      cases b with
      | true => cases h
      | false => exact ⟨hb, h⟩
    · exact fun h => ⟨false, h.1, h.2⟩

section
variable (ev)

theorem checkGroupG_some (g : List Contract) (c : Contract)
    (h : (checkGroupG ev g).out = .ok (some c)) :
    c ∈ g ∧ (ev c).out = .ok true := by
  induction g with
  | nil => cases h
  | cons d ds ih =>
    rw [checkGroupG_cons] at h
    obtain ⟨b, hb, h⟩ := bind_out_ok_iff.mp h
    cases b with
    | true =>
      cases h
      exact ⟨List.mem_cons_self, hb⟩
    | false =>
      obtain ⟨hm, he⟩ := ih h
      exact ⟨List.mem_cons_of_mem _ hm, he⟩

end

theorem checkGroupG_det {pos : Contract → Bool} (g : List Contract)
    (hdet : ∀ c ∈ g, (ev c).out = .ok (!pos c)) :
    (checkGroupG ev g).out = .ok (g.find? fun c => !pos c) := by
  induction g with
  | nil => rfl
  | cons c cs ih =>
    rw [List.forall_mem_cons] at hdet
    rw [checkGroupG_cons, bind_out_of_ok hdet.1, List.find?_cons]
    cases pos c with
    | false => rfl
    | true => exact ih hdet.2

theorem checkGroupG_trace {P : Event → Prop}
    (hP : ∀ c, ∀ e ∈ (ev c).trace, P e) (g : List Contract) :
    ∀ e ∈ (checkGroupG ev g).trace, P e := by
  induction g with
  | nil => intro e h; cases h
  | cons c cs ih =>
    rw [checkGroupG_cons]
    refine forall_mem_bind_trace.mpr ⟨hP c, fun b _ => ?_⟩
    cases b with
    | true => intro e h; cases h
    | false => exact ih

end Group

theorem assertPreAuxG_cons {ev : Contract → Res Bool} {last : Option Contract}
    {g : List Contract} {gs : List (List Contract)} :
    assertPreAuxG ev last (g :: gs) =
      (checkGroupG ev g >>= fun r =>
        match r with
        | none => pure none
        | some c => assertPreAuxG ev (some c) gs) :=
  rfl

theorem assertPreAuxG_none {ev : Contract → Res Bool} {groups : List (List Contract)}
    {last : Option Contract} (h : (assertPreAuxG ev last groups).out = .ok none) :
    (groups = [] ∧ last = none) ∨ ∃ g ∈ groups, ∀ c ∈ g, (ev c).out = .ok false := by
  induction groups generalizing last with
  | nil => exact .inl ⟨rfl, Except.ok.inj h⟩
  | cons g gs ih =>
    right
    rw [assertPreAuxG_cons] at h
    obtain ⟨r, hr, h⟩ := bind_out_ok_iff.mp h
    cases r with
    | none => exact ⟨g, List.mem_cons_self, checkGroupG_none_iff.mp hr⟩
    | some c =>
      rcases ih h with ⟨_, hl⟩ | ⟨g', hg', hall⟩
      · cases hl
      · exact ⟨g', List.mem_cons_of_mem _ hg', hall⟩

/-- Every failing group overwrites `last`, so only the violated contract of the last group survives; `last` itself
is returned for the empty list only. -/
theorem assertPreAuxG_det {ev : Contract → Res Bool} {pos : Contract → Bool}
    (groups : List (List Contract)) (last : Option Contract)
    (hdet : ∀ g ∈ groups, ∀ c ∈ g, (ev c).out = .ok (!pos c)) :
    (assertPreAuxG ev last groups).out =
      .ok (if groups.any (·.all pos) then none
           else match groups.getLast? with
             | some g => g.find? fun c => !pos c
             | none => last) := by
  induction groups generalizing last with
  | nil => rfl
  | cons g gs ih =>
    rw [List.forall_mem_cons] at hdet
    rw [assertPreAuxG_cons, bind_out_of_ok (checkGroupG_det g hdet.1), List.any_cons]
    cases hf : g.find? fun c => !pos c with
    | none =>
      rw [List.all_eq_true.mpr fun c hc => by simpa using List.find?_eq_none.mp hf c hc]
      rfl
    | some c =>
      rw [List.all_eq_false.mpr ⟨c, List.mem_of_find?_eq_some hf, by simpa using List.find?_some hf⟩,
        Bool.false_or, ih (some c) hdet.2]
      rw [List.getLast?_cons]
      cases gs.getLast? with
      | none => simp only [Option.getD_none, hf]
      | some x => rfl

theorem assertPreAuxG_append_of_holds {ev : Contract → Res Bool} {g : List Contract}
    (hg : (checkGroupG ev g).out = .ok none) (gs1 gs2 : List (List Contract)) (last : Option Contract) :
    assertPreAuxG ev last (gs1 ++ g :: gs2) = assertPreAuxG ev last (gs1 ++ [g]) := by
  induction gs1 generalizing last with
  | nil =>
    rw [List.nil_append, List.nil_append, assertPreAuxG_cons, assertPreAuxG_cons, bind_eq, bind_eq, hg]
  | cons g' gs1 ih =>
    rw [List.cons_append, List.cons_append, assertPreAuxG_cons, assertPreAuxG_cons]
    exact bind_congr' fun r => by cases r with | none => rfl | some c => exact ih (some c)

theorem assertPreAuxG_trace {ev : Contract → Res Bool} {P : Event → Prop}
    (hP : ∀ c, ∀ e ∈ (ev c).trace, P e) (groups : List (List Contract)) (last : Option Contract) :
    ∀ e ∈ (assertPreAuxG ev last groups).trace, P e := by
  induction groups generalizing last with
  | nil => intro e h; cases h
  | cons g gs ih =>
    rw [assertPreAuxG_cons]
    refine forall_mem_bind_trace.mpr ⟨checkGroupG_trace hP g, fun r _ => ?_⟩
    cases r with
    | none => intro e h; cases h
    | some c => exact ih (some c)

end Icontract
