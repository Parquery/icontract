/- Decorator stacks (`IcontractModel/Stack.lean`): what one successfully applied decorator does to the
   callable (`applyDeco_ok`), and from it, by composition (`Applied.trans`, the start object being any
   object), what a whole stack does (`applyAll_ok`). -/
import IcontractModel.Stack
import IcontractModel.Lemmas.ListLemmas
namespace Icontract.Stack

theorem applyAll_nil (o0 : FObj) : applyAll [] o0 = .ok o0 := rfl

theorem applyAll_cons (d : Deco) (ds : List Deco) (o0 : FObj) :
    applyAll (d :: ds) o0 = (match applyDeco o0 d with | .ok o1 => applyAll ds o1 | .error e => .error e) := by
  unfold applyAll
  rw [List.foldlM_cons]
  cases applyDeco o0 d <;> rfl

theorem hasChecker_iff (o : FObj) : o.hasChecker = true ↔ Layer.checker ∈ o.layers :=
  List.contains_iff_mem

/-- `o` is `o0` with the decorators `ds` applied.  The number of checker layers is stated exactly, so no
bound on the start object has to be carried through an induction. -/
structure Applied (o0 : FObj) (ds : List Deco) (o : FObj) : Prop where
  pre : o.pre = o0.pre ++ requireIds ds
  posts : o.posts = o0.posts ++ ensureIds ds
  foreign : layerForeignIds o.layers = (foreignIds ds).reverse ++ layerForeignIds o0.layers
  checkers : o.layers.count .checker =
    o0.layers.count .checker + (if (ds.any Deco.isContract && !o0.hasChecker) = true then 1 else 0)
  hasChecker : o.hasChecker = (o0.hasChecker || ds.any Deco.isContract)

theorem Applied.refl (o : FObj) : Applied o [] o :=
  ⟨(List.append_nil _).symm, (List.append_nil _).symm, rfl, rfl, (Bool.or_false _).symm⟩

theorem Applied.trans {a b c : FObj} {ds1 ds2 : List Deco} (h1 : Applied a ds1 b) (h2 : Applied b ds2 c) :
    Applied a (ds1 ++ ds2) c where
  pre := by rw [h2.pre, h1.pre, List.append_assoc]; exact congrArg _ List.filterMap_append.symm
  posts := by rw [h2.posts, h1.posts, List.append_assoc]; exact congrArg _ List.filterMap_append.symm
  foreign := by
    rw [h2.foreign, h1.foreign, ← List.append_assoc, ← List.reverse_append]
    exact congrArg (·.reverse ++ _) List.filterMap_append.symm
  checkers := by
    rw [h2.checkers, h1.checkers, h1.hasChecker, List.any_append]
    cases ds1.any Deco.isContract <;> cases ds2.any Deco.isContract <;> cases a.hasChecker <;> rfl
  hasChecker := by rw [h2.hasChecker, h1.hasChecker, List.any_append, Bool.or_assoc]

theorem applyDeco_ok {o o1 : FObj} {d : Deco} (h : applyDeco o d = .ok o1) : Applied o [d] o1 := by
  cases d with
  | foreign g =>
    cases h
    exact .mk (List.append_nil _).symm (List.append_nil _).symm rfl rfl (Bool.or_false _).symm
  | require c =>
    cases hh : o.hasChecker with
    | true =>
      rw [applyDeco, if_pos hh] at h
      cases h
      exact .mk rfl (List.append_nil _).symm rfl (by rw [hh]; rfl) (by rw [hh]; exact hh)
    | false =>
      rw [applyDeco, if_neg (Bool.eq_false_iff.1 hh)] at h
      cases h
      exact .mk rfl (List.append_nil _).symm rfl (by rw [hh, List.count_cons_self]; rfl) (by rw [hh]; rfl)
  | ensure c =>
    cases hh : o.hasChecker with
    | true =>
      rw [applyDeco, if_pos hh] at h
      cases h
      exact .mk (List.append_nil _).symm rfl rfl (by rw [hh]; rfl) (by rw [hh]; exact hh)
    | false =>
      rw [applyDeco, if_neg (Bool.eq_false_iff.1 hh)] at h
      cases h
      exact .mk (List.append_nil _).symm rfl rfl (by rw [hh, List.count_cons_self]; rfl) (by rw [hh]; rfl)
  | snapshot s =>
    by_cases hh : (!o.hasChecker || o.posts.isEmpty) = true
    · rw [applyDeco, if_pos hh] at h
      cases h
    · rw [applyDeco, if_neg hh] at h
      cases h
      exact .mk (List.append_nil _).symm (List.append_nil _).symm rfl rfl (Bool.or_false _).symm

theorem applyAll_ok {ds : List Deco} {o0 o : FObj} (h : applyAll ds o0 = .ok o) : Applied o0 ds o :=
  foldlM_snoc_ind (P := Applied o0) (fun _ _ _ _ hP hd => hP.trans (applyDeco_ok hd)) ds [] o0 o (.refl o0) h

theorem foreignRan_mem_callTrace {o : FObj} {g : Nat} (hg : g ∈ layerForeignIds o.layers) :
    CallEv.foreignRan g ∈ callTrace o := by
  obtain ⟨l, hl, hlg⟩ := List.mem_filterMap.1 hg
  refine List.mem_append_left _ (List.mem_map.2 ⟨l, hl, ?_⟩)
  cases l with
  | checker => cases hlg
  | foreign g' => cases hlg; rfl

theorem body_mem_callTrace {o : FObj} : CallEv.body ∈ callTrace o :=
  List.mem_append_right _ (List.mem_singleton.2 rfl)

end Icontract.Stack
