/-
  The re-evaluator computes what Python computes, for any predicate `keep` that is true on the ids outside
  comprehension scopes and false on the ids inside.  `PySim` relates a block of `pyEval` to the block of `visit` that
  does the same work, with one lemma for each kind of step the two take side by side; every case of the induction on
  the expression (`Expr.ind`; the loops of the visitor are lemmas by induction on the list) composes these lemmas
  along the two `do` blocks.

  The visitor visits a keyed dictionary item value-first and a formatted value specification-first, so its log is in
  general a PERMUTATION of Python's; it is EQUAL to Python's when the expression is `orderFaithful`.  Both statements
  are proved at once: `LogRel strict a b` is `a = b` for `strict = true` and `a.Perm b` otherwise, and the theorem
  assumes `strict = true → e.orderFaithful = true`.
-/
import IcontractModel.Spec.PyEval
import IcontractModel.Lemmas.Lookup
import IcontractModel.Lemmas.ReevalLog
import IcontractModel.Lemmas.ListLemmas
namespace Icontract.Ex

theorem harvest_out {ops : Ops} {bi : List (String × Val)} {tbl : Tbl} {es : List Expr} :
    (harvest ops bi tbl es).out = .ok () := by
  cases es <;> rfl

/-- equality when `strict`, permutation otherwise -/
def LogRel (strict : Bool) (a b : Log) : Prop := if strict = true then a = b else a.Perm b

theorem LogRel.refl {s : Bool} {a : Log} : LogRel s a a := by
  unfold LogRel; split
  · rfl
  · exact List.Perm.refl _

theorem LogRel.append {s : Bool} {a b c d : Log} (h1 : LogRel s a b) (h2 : LogRel s c d) :
    LogRel s (a ++ c) (b ++ d) := by
  unfold LogRel at *
  split
  · next hs => rw [if_pos hs] at h1 h2; rw [h1, h2]
  · next hs => rw [if_neg hs] at h1 h2; exact h1.append h2

theorem LogRel.cons {s : Bool} {a b : Log} (x : Nat × Val) (h : LogRel s a b) : LogRel s (x :: a) (x :: b) :=
  LogRel.append (LogRel.refl (a := [x])) h

theorem LogRel.perm {s : Bool} {a b : Log} (h : LogRel s a b) : a.Perm b := by
  unfold LogRel at h
  split at h
  · rw [h]
  · exact h

theorem LogRel.eq {a b : Log} (h : LogRel true a b) : a = b := by
  simpa [LogRel] using h

/-- `x` returns `a`, and what it logs under the kept ids is Python's log `P` -/
def Sim (keep : Nat → Bool) (strict : Bool) {α : Type} (x : VRes α) (a : α) (P : Log) : Prop :=
  x.out = .ok a ∧ LogRel strict (x.log.filter (fun p => keep p.1)) P

namespace Sim
variable {keep : Nat → Bool} {strict : Bool} {α β : Type} {x : VRes α} {f : α → VRes β} {a : α} {b : β} {P Q : Log}

theorem pure (a : α) : Sim keep strict (Pure.pure a : VRes α) a [] := ⟨rfl, LogRel.refl⟩

theorem bind (hx : Sim keep strict x a P) (hf : Sim keep strict (f a) b Q) : Sim keep strict (x >>= f) b (P ++ Q) := by
  rw [VRes.bind_of_ok hx.1]
  refine ⟨hf.1, ?_⟩
  show LogRel strict ((x.log ++ (f a).log).filter _) _
  rw [List.filter_append]
  exact hx.2.append hf.2

end Sim

/-- the side conditions of the theorems below, for a part of the expression with well-formedness `w`,
order-faithfulness `o`, outer ids `O` and inner ids `I`; they split along the structure of the expression -/
structure Side (keep : Nat → Bool) (strict w o : Bool) (O I : List Nat) : Prop where
  wf : w = true
  faithful : strict = true → o = true
  outer : ∀ i ∈ O, keep i = true
  inner : ∀ i ∈ I, keep i = false

namespace Side
variable {keep : Nat → Bool} {strict w o w₁ o₁ w₂ o₂ w₃ o₃ : Bool} {O I O₁ I₁ O₂ I₂ O₃ I₃ : List Nat}

theorem node {i : Nat} (h : Side keep strict w o (i :: O) I) : keep i = true ∧ Side keep strict w o O I :=
  ⟨h.outer i List.mem_cons_self, h.wf, h.faithful, fun j hj => h.outer j (List.mem_cons_of_mem _ hj), h.inner⟩

theorem and (h : Side keep strict (w₁ && w₂) (o₁ && o₂) (O₁ ++ O₂) (I₁ ++ I₂)) :
    Side keep strict w₁ o₁ O₁ I₁ ∧ Side keep strict w₂ o₂ O₂ I₂ :=
  have hw := Bool.and_eq_true_iff.mp h.wf
  have ho := List.forall_mem_append.mp h.outer
  have hi := List.forall_mem_append.mp h.inner
  ⟨⟨hw.1, fun s => (Bool.and_eq_true_iff.mp (h.faithful s)).1, ho.1, hi.1⟩,
   ⟨hw.2, fun s => (Bool.and_eq_true_iff.mp (h.faithful s)).2, ho.2, hi.2⟩⟩

/-- The shapes are those of the model's definitions: `wf` and `orderFaithful` nest `&&` to the right, the id lists nest
`++` to the left.  The clauses of a new constructor have to be written the same way for `and` / `and₃` to apply. -/
theorem and₃ (h : Side keep strict (w₁ && (w₂ && w₃)) (o₁ && (o₂ && o₃)) (O₁ ++ O₂ ++ O₃) (I₁ ++ I₂ ++ I₃)) :
    Side keep strict w₁ o₁ O₁ I₁ ∧ Side keep strict w₂ o₂ O₂ I₂ ∧ Side keep strict w₃ o₃ O₃ I₃ := by
  rw [List.append_assoc, List.append_assoc] at h
  exact ⟨h.and.1, h.and.2.and⟩

theorem nonempty {α : Type} {l : List α} (h : Side keep strict (!l.isEmpty && w) o O I) :
    l.isEmpty = false ∧ Side keep strict w o O I :=
  have hw := Bool.and_eq_true_iff.mp h.wf
  ⟨(Bool.not_eq_true' _).mp hw.1, hw.2, h.faithful, h.outer, h.inner⟩

theorem not_strict (h : Side keep strict w false O I) : strict = false := by
  cases strict with
  | false => rfl
  | true => exact absurd (h.faithful rfl) Bool.false_ne_true

theorem relax (h : Side keep false w o O I) (o' : Bool) : Side keep false w o' O I :=
  ⟨h.wf, nofun, h.outer, h.inner⟩

theorem of_nodup {e : Expr} (hwf : e.wf = true) (hof : strict = true → e.orderFaithful = true)
    (hid : (allIds e).Nodup) :
    Side (fun i => !(innerIds e).contains i) strict e.wf e.orderFaithful (outerIds e) (innerIds e) :=
  ⟨hwf, hof, fun i ho => by simpa using outer_not_inner hid ho, fun i hi => by simpa using hi⟩

end Side

/-- A block `q` of Python's evaluation against a block `y` of the visitor's, Python having logged `acc` so far in the
node at hand: if `q` succeeds with `(c, P)`, then `y` returns `g c` and `P` is `acc` followed by what `y` logs under
the kept ids.  The lemmas follow the steps which `pyEval` and `visit` take side by side, so that no case has to invert
Python's evaluation. -/
def PySim (keep : Nat → Bool) (strict : Bool) {γ δ : Type} (acc : Log) (g : γ → δ) (q : Except Exc (γ × Log))
    (y : VRes δ) : Prop :=
  ∀ c P, q = .ok (c, P) → ∃ Q, P = acc ++ Q ∧ Sim keep strict y (g c) Q

namespace PySim
variable {keep : Nat → Bool} {strict : Bool} {α β γ δ ρ : Type} {acc : Log} {p : Except Exc (α × Log)}
  {q : Except Exc (γ × Log)} {k : α × Log → Except Exc (γ × Log)} {x : VRes β} {y : VRes δ} {f : β → VRes δ} {g : α → β}
  {g' : γ → δ}

theorem run {c : γ} {P : Log} (H : PySim keep strict [] g' q y) (h : q = .ok (c, P)) : Sim keep strict y (g' c) P := by
  obtain ⟨Q, rfl, hs⟩ := H c P h
  exact hs

theorem bind (hp : PySim keep strict [] g p x) (hk : ∀ a l, PySim keep strict (acc ++ l) g' (k (a, l)) (f (g a))) :
    PySim keep strict acc g' (p >>= k) (x >>= f) := by
  intro c P h
  obtain ⟨⟨a, l⟩, h1, h2⟩ := Except.bind_eq_ok_iff.mp h
  obtain ⟨Q, rfl, hs⟩ := hk a l c P h2
  exact ⟨l ++ Q, List.append_assoc .., Sim.bind (hp.run h1) hs⟩

/-- the last step of a loop, where Python only appends the log of the rest: its `let (r, l) ← p; pure (r, acc ++ l)`
is this function of the pair by eta -/
theorem tail {p : Except Exc (γ × Log)} (hp : PySim keep strict [] g' p y) :
    PySim keep strict acc g' (p >>= fun r => Pure.pure (r.1, acc ++ r.2)) y := by
  intro c P h
  obtain ⟨⟨a, l⟩, h1, h2⟩ := Except.bind_eq_ok_iff.mp h
  cases h2
  exact ⟨l, rfl, hp.run h1⟩

theorem py_bind {op : Except Exc ρ} {k : ρ → Except Exc (γ × Log)}
    (hk : ∀ r, op = .ok r → PySim keep strict acc g' (k r) y) :
    PySim keep strict acc g' (op >>= k) y := by
  intro c P h
  obtain ⟨r, h1, h2⟩ := Except.bind_eq_ok_iff.mp h
  exact hk r h1 c P h2

theorem lift {op : Except Exc ρ} {k : ρ → Except Exc (γ × Log)} {f : ρ → VRes δ}
    (hk : ∀ r, PySim keep strict acc g' (k r) (f r)) : PySim keep strict acc g' (op >>= k) (VRes.lift op >>= f) :=
  py_bind fun r h => by
    rw [h, VRes.lift_ok_bind]
    exact hk r

theorem silent {b : β} (ho : x.out = .ok b) (hl : ∀ p ∈ x.log, keep p.1 = false)
    (hk : PySim keep strict acc g' q (f b)) :
    PySim keep strict acc g' q (x >>= f) := by
  intro c P h
  obtain ⟨Q, rfl, hs⟩ := hk c P h
  refine ⟨Q, rfl, Sim.bind (P := []) ⟨ho, ?_⟩ hs⟩
  rw [List.filter_eq_nil_iff.mpr fun p hp => by rw [hl p hp]; exact Bool.false_ne_true]
  exact LogRel.refl

theorem guard {c : Prop} [Decidable c] {e : Exc} (h : ¬c → PySim keep strict acc g' q y) :
    PySim keep strict acc g' (if c then .error e else q) y := by
  split
  · exact nofun
  · next hc => exact h hc

theorem ret {g' : α → δ} (hp : PySim keep strict acc g p x) (hf : ∀ a, f (g a) = Pure.pure (g' a)) :
    PySim keep strict acc g' p (x >>= f) := by
  intro c P h
  obtain ⟨Q, rfl, hs⟩ := hp c P h
  exact ⟨Q, rfl, List.append_nil Q ▸ Sim.bind (f := f) hs (hf c ▸ Sim.pure _)⟩

theorem ite {c : Prop} [Decidable c] {q₂ : Except Exc (γ × Log)} {y₂ : VRes δ} (h₁ : PySim keep strict acc g' q y)
    (h₂ : PySim keep strict acc g' q₂ y₂) : PySim keep strict acc g' (if c then q else q₂) (if c then y else y₂) := by
  split
  · exact h₁
  · exact h₂

theorem pure {c : γ} : PySim keep strict acc g' (Pure.pure (c, acc)) (Pure.pure (g' c)) := by
  intro c' P h
  cases h
  exact ⟨[], (List.append_nil _).symm, Sim.pure _⟩

theorem record_pure {i : Nat} {r : Val} (hk : keep i = true) :
    PySim keep strict acc some (Pure.pure (r, acc ++ [(i, r)])) (do VRes.record i r; Pure.pure (some r)) := by
  intro c' P h
  cases h
  refine ⟨_, rfl, Sim.bind (x := VRes.record i r) (P := [(i, r)]) ⟨rfl, ?_⟩ (Sim.pure _)⟩
  show LogRel strict ([(i, r)].filter _) _
  rw [List.filter_cons_of_pos (by exact hk)]
  exact LogRel.refl

/-- `try: visit(..) except Exception: pass`: the log is kept, the outcome is not -/
theorem log_only (hp : PySim keep strict acc g p x) : PySim keep strict acc (fun _ => ()) p ⟨x.log, .ok ()⟩ := by
  intro c P h
  obtain ⟨Q, e, hs⟩ := hp c P h
  exact ⟨Q, e, rfl, hs.2⟩

/-- two parts which the visitor visits in the other order than Python evaluates them (`k: v`, `{e:spec}`): the logs
agree as multisets -/
theorem swap {β₂ : Type} {x₂ : VRes β₂} {f : β₂ → β → VRes δ}
    (h : PySim keep false acc g' q (x >>= fun a => x₂ >>= fun b => f b a)) :
    PySim keep false acc g' q (x₂ >>= fun b => x >>= fun a => f b a) := by
  intro c P hq
  obtain ⟨Q, rfl, ho, hl⟩ := h c P hq
  refine ⟨Q, rfl, ?_⟩
  cases hx : x.out with
  | error e => rw [VRes.bind_of_error hx] at ho; cases ho
  | ok a =>
    rw [VRes.bind_of_ok hx] at ho hl
    cases hx₂ : x₂.out with
    | error e => rw [VRes.bind_of_error hx₂] at ho; cases ho
    | ok b =>
      rw [VRes.bind_of_ok hx₂] at ho hl
      rw [VRes.bind_of_ok hx₂, VRes.bind_of_ok hx]
      exact ⟨ho, ((List.perm_append_comm_assoc _ _ _).filter _).trans hl.perm⟩

end PySim

/-- the claim of `visit_py` for one expression: what the loop lemmas assume of the elements -/
def VisitPy (ops : Ops) (env : Env) (keep : Nat → Bool) (e : Expr) : Prop :=
  ∀ strict, Side keep strict e.wf e.orderFaithful (outerIds e) (innerIds e) →
    PySim keep strict [] some (pyEval ops env e) (visit ops env.builtins (Tbl.ofNames env.names) e)

/- The two evaluators are opened with `unfold` (one step, on the constructor): `simp only [pyEval]` builds its simp set
from all the equation lemmas at every call and is slow to check.  Where it pays, so are the functions in `S` (as noted
in Lemmas/Reeval.lean). -/

section loops
variable {ops : Ops} {env : Env} {keep : Nat → Bool} {strict : Bool}

theorem visitElts_sim {es : List Expr}
    (hel : ∀ e ∈ es, VisitPy ops env keep e ∧ ∀ j e', e = .starred j e' → VisitPy ops env keep e')
    (S : Side keep strict (wfElts es) (orderFaithfulList es) (outerIdsList es) (innerIdsList es)) :
    PySim keep strict [] (List.map some) (pyEvalElts ops env es)
      (visitElts ops env.builtins (Tbl.ofNames env.names) es) := by
  induction es with
  | nil => exact PySim.pure
  | cons e rest ih =>
    obtain ⟨he, hrest⟩ := List.forall_mem_cons.mp hel
    unfold orderFaithfulList outerIdsList innerIdsList at S
    rcases e.starred_or with ⟨j, e', rfl⟩ | hns
    · -- `S1` is about `.starred j e'`; `S1.node.2` turns it into the side conditions of `e'` by defeq (three unfoldings
      -- on one constructor: an explicit `unfold` does not pay here)
      obtain ⟨S1, S2⟩ := S.and
      unfold pyEvalElts visitElts
      refine PySim.bind (he.2 j e' rfl strict S1.node.2) fun s l => PySim.lift fun xs =>
        PySim.bind (ih hrest S2) fun vs l2 => ?_
      rw [← List.map_append]
      exact PySim.pure
    · -- `eq_3`: the arm `e :: rest` of each definition, for a head that is not starred (see `Expr.starred_or`)
      rw [wfElts.eq_3 _ _ hns] at S
      obtain ⟨S1, S2⟩ := S.and
      rw [pyEvalElts.eq_3 _ _ _ _ hns, visitElts.eq_3 _ _ _ _ _ hns]
      exact PySim.bind (he.1 strict S1) fun v l => PySim.bind (ih hrest S2) fun vs l2 => PySim.pure

theorem visitArgs_sim {es : List Expr}
    (hel : ∀ e ∈ es, VisitPy ops env keep e ∧ ∀ j e', e = .starred j e' → VisitPy ops env keep e')
    (S : Side keep strict (wfElts es) (orderFaithfulList es) (outerIdsList es) (innerIdsList es)) :
    PySim keep strict [] (fun vs => some (vs.map some)) (pyEvalElts ops env es)
      (visitArgs ops env.builtins (Tbl.ofNames env.names) es) := by
  induction es with
  | nil => exact PySim.pure
  | cons e rest ih =>
    obtain ⟨he, hrest⟩ := List.forall_mem_cons.mp hel
    unfold orderFaithfulList outerIdsList innerIdsList at S
    rcases e.starred_or with ⟨j, e', rfl⟩ | hns
    · obtain ⟨S1, S2⟩ := S.and
      unfold pyEvalElts visitArgs
      refine PySim.bind (he.2 j e' rfl strict S1.node.2) fun s l => PySim.lift fun xs =>
        PySim.bind (ih hrest S2) fun vs l2 => ?_
      rw [Option.map_some, ← List.map_append]
      exact PySim.pure
    · rw [wfElts.eq_3 _ _ hns] at S
      obtain ⟨S1, S2⟩ := S.and
      rw [pyEvalElts.eq_3 _ _ _ _ hns, visitArgs.eq_3 _ _ _ _ _ hns]
      exact PySim.bind (he.1 strict S1) fun v l => PySim.bind (ih hrest S2) fun vs l2 => PySim.pure

/-- the visitor's keyword table holding real values only -/
def kwSome (p : String × Val) : String × Option Val := (p.1, some p.2)

theorem kwPut_fresh {acc : List (String × Val)} {k : String} {v : Val} (h : acc.any (fun p => p.1 == k) = false) :
    kwPut (acc.map kwSome) k (some v) = (acc ++ [(k, v)]).map kwSome := by
  unfold kwPut
  rw [show (acc.map kwSome).any (fun p => p.1 == k) = false from List.any_map.trans h]
  simp [kwSome]

/-- `**u` in a call: when Python found no repeated keyword, the visitor's `kwargs[k] = v` loop only appends -/
theorem kwFold_ok {kvs acc acc' : List (String × Val)}
    (h : kvs.foldlM
      (fun a p => if a.any (fun q => q.1 == p.1) then (.error "TypeError" : Except Exc _) else .ok (a ++ [p])) acc
        = .ok acc') :
    kvs.foldl (fun a p => kwPut a p.1 (some p.2)) (acc.map kwSome) = acc'.map kwSome := by
  induction kvs generalizing acc with
  | nil =>
    cases h
    rfl
  | cons p rest ih =>
    rw [List.foldlM_cons] at h
    obtain ⟨a1, h1, h2⟩ := Except.bind_eq_ok_iff.mp h
    split at h1
    · cases h1
    · next hc =>
      cases h1
      rw [List.foldl_cons, kwPut_fresh (Bool.of_not_eq_true hc)]
      exact ih h2

theorem visitKws_sim {kws : List (Option String × Expr)} (hel : ∀ p ∈ kws, VisitPy ops env keep p.2)
    {acc : List (String × Val)}
    (S : Side keep strict (wfKws kws) (orderFaithfulKws kws) (outerIdsKws kws) (innerIdsKws kws)) :
    PySim keep strict [] (List.map kwSome) (pyEvalKws ops env acc kws)
      (visitKws ops env.builtins (Tbl.ofNames env.names) (acc.map kwSome) kws) := by
  induction kws generalizing acc with
  | nil => exact PySim.pure
  | cons p rest ih =>
    obtain ⟨k?, e⟩ := p
    obtain ⟨he, hrest⟩ := List.forall_mem_cons.mp hel
    obtain ⟨S1, S2⟩ := S.and
    cases k? with
    | some k =>
      unfold pyEvalKws visitKws
      refine PySim.bind (he strict S1) fun v l => PySim.guard fun hc => ?_
      rw [kwPut_fresh (Bool.of_not_eq_true hc)]
      exact PySim.tail (ih hrest S2)
    | none =>
      unfold pyEvalKws visitKws
      refine PySim.bind (he strict S1) fun u l => PySim.lift fun kvs => PySim.py_bind fun acc' h => ?_
      rw [kwFold_ok h]
      exact PySim.tail (ih hrest S2)

theorem visitItems_sim {items : List (Option Expr × Expr)}
    (hel : ∀ p ∈ items, (∀ k ∈ p.1, VisitPy ops env keep k) ∧ VisitPy ops env keep p.2) {d : Val}
    (S : Side keep strict (wfItems items) (orderFaithfulItems items) (outerIdsItems items) (innerIdsItems items)) :
    PySim keep strict [] (fun r => (r, false)) (pyEvalItems ops env d items)
      (visitItems ops env.builtins (Tbl.ofNames env.names) d false items) := by
  induction items generalizing d with
  | nil => exact PySim.pure
  | cons p rest ih =>
    obtain ⟨k?, e⟩ := p
    obtain ⟨⟨hk, he⟩, hrest⟩ := List.forall_mem_cons.mp hel
    cases k? with
      unfold wfItems orderFaithfulItems outerIdsItems innerIdsItems at S
    | none =>
      -- `**e` has no key: the key's share of `wfItems` and of the id lists reduces away once the split is named
      obtain ⟨S1, S2⟩ := S.and (w₁ := e.wf) (O₁ := outerIds e) (I₁ := innerIds e)
      unfold pyEvalItems visitItems
      exact PySim.bind (he strict S1) fun u l => PySim.lift fun d' => PySim.tail (ih hrest S2)
    | some k =>
      obtain rfl := S.not_strict
      obtain ⟨S1, S2, S3⟩ := (S.relax (k.orderFaithful && (e.orderFaithful && orderFaithfulItems rest))).and₃
      unfold pyEvalItems visitItems
      exact PySim.swap <| PySim.bind (hk k rfl false S1) fun kv l => PySim.bind (he false S2) fun vv l₂ =>
        PySim.lift fun d' => PySim.tail (ih hrest S3)

theorem visitOpt_sim {o : Option Expr} (hel : ∀ e ∈ o, VisitPy ops env keep e)
    (S : Side keep strict (wfOpt o) (orderFaithfulOpt o) (outerIdsOpt o) (innerIdsOpt o)) :
    PySim keep strict [] some (pyEvalOpt ops env o) (visitOpt ops env.builtins (Tbl.ofNames env.names) o) := by
  cases o with
  | none => exact PySim.pure
  | some e => exact hel e rfl strict S

theorem visitList_sim {es : List Expr} (hel : ∀ e ∈ es, VisitPy ops env keep e)
    (S : Side keep strict (wfList es) (orderFaithfulList es) (outerIdsList es) (innerIdsList es)) :
    PySim keep strict [] (List.map some) (pyEvalList ops env es)
      (visitList ops env.builtins (Tbl.ofNames env.names) es) := by
  induction es with
  | nil => exact PySim.pure
  | cons e rest ih =>
    obtain ⟨he, hrest⟩ := List.forall_mem_cons.mp hel
    obtain ⟨S1, S2⟩ := S.and
    unfold pyEvalList visitList
    exact PySim.bind (he strict S1) fun v l => PySim.bind (ih hrest S2) fun vs l2 => PySim.pure

theorem visitBool_sim {es : List Expr} (hel : ∀ e ∈ es, VisitPy ops env keep e) {isAnd : Bool} {last : Option Val}
    (hne : es.isEmpty = false)
    (S : Side keep strict (wfList es) (orderFaithfulList es) (outerIdsList es) (innerIdsList es)) :
    PySim keep strict [] some (pyEvalBool ops env isAnd es)
      (visitBool ops env.builtins (Tbl.ofNames env.names) isAnd false last es) := by
  induction es generalizing last with
  | nil => cases hne
  | cons e rest ih =>
    obtain ⟨he, hrest⟩ := List.forall_mem_cons.mp hel
    obtain ⟨S1, S2⟩ := S.and
    cases rest with
    | nil =>
      unfold pyEvalBool visitBool
      exact PySim.ret (he strict S1) fun _ => rfl
    | cons e2 rest =>
      unfold pyEvalBool visitBool
      exact PySim.bind (he strict S1) fun v l => PySim.lift fun b =>
        PySim.ite PySim.pure (PySim.tail (ih hrest rfl S2))

theorem visitCmp_sim {es : List (CmpOp × Expr)} (hel : ∀ p ∈ es, VisitPy ops env keep p.2) {left : Val}
    {result : Option Val} (hne : es.isEmpty = false)
    (S : Side keep strict (wfCmp es) (orderFaithfulCmp es) (outerIdsCmp es) (innerIdsCmp es)) :
    PySim keep strict [] some (pyEvalCmp ops env left es)
      (visitCmp ops env.builtins (Tbl.ofNames env.names) false (some left) result es) := by
  induction es generalizing left result with
  | nil => cases hne
  | cons p rest ih =>
    obtain ⟨op, e⟩ := p
    obtain ⟨he, hrest⟩ := List.forall_mem_cons.mp hel
    obtain ⟨S1, S2⟩ := S.and
    cases rest with
    | nil =>
      unfold pyEvalCmp visitCmp
      exact PySim.bind (he strict S1) fun v l => PySim.lift fun r => PySim.pure
    | cons p2 rest =>
      unfold pyEvalCmp visitCmp
      exact PySim.bind (he strict S1) fun v l => PySim.lift fun r => PySim.lift fun b =>
        PySim.ite PySim.pure (PySim.tail (ih hrest rfl S2))

end loops

theorem any_isNone_map_some (l : List Val) : (l.map some).any Option.isNone = false := by
  simp

theorem filterMap_id_map_some (l : List Val) : (l.map some).filterMap id = l := by
  simp

theorem visit_py {ops : Ops} {env : Env} {keep : Nat → Bool} (e : Expr) (strict : Bool)
    (S : Side keep strict e.wf e.orderFaithful (outerIds e) (innerIds e)) :
    PySim keep strict [] some (pyEval ops env e) (visit ops env.builtins (Tbl.ofNames env.names) e) := by
  induction e using Expr.ind generalizing strict with
    unfold Expr.wf Expr.orderFaithful outerIds innerIds at S
  | const i c =>
      unfold pyEval visit
      exact PySim.record_pure S.node.1
  | name i n =>
      have hk := S.node.1
      unfold pyEval visit
      rw [lookupT_ofNames]
      cases lookup env.names n with
      | some x => exact PySim.record_pure hk
      | none =>
        cases lookup env.builtins n with
        | some x => exact PySim.record_pure hk
        | none => exact nofun
  | attr i e _ ih | unary i _ e ih =>
      obtain ⟨hk, S⟩ := S.node
      unfold pyEval visit
      exact PySim.bind (ih strict S) fun v l => PySim.lift fun r => PySim.record_pure hk
  | subscr i l r ihl ihr | bin i _ l r ihl ihr =>
      obtain ⟨hk, S⟩ := S.node
      obtain ⟨S1, S2⟩ := S.and
      unfold pyEval visit
      exact PySim.bind (ihl strict S1) fun a l1 => PySim.bind (ihr strict S2) fun b l2 => PySim.lift fun x =>
        PySim.record_pure hk
  | call i f args ihf iha =>
      obtain ⟨hk, S⟩ := S.node
      obtain ⟨S1, S2⟩ := S.and
      unfold pyEval visit
      refine PySim.bind (ihf strict S1) fun fv l1 => PySim.bind (visitList_sim iha S2) fun avs l2 => ?_
      rw [any_isNone_map_some, filterMap_id_map_some]
      exact PySim.lift fun r => PySim.record_pure hk
  | boolop i isAnd es ih =>
      obtain ⟨hk, S⟩ := S.node
      obtain ⟨hne, S⟩ := S.nonempty
      unfold pyEval visit
      exact PySim.bind (visitBool_sim ih hne S) fun r l => PySim.record_pure hk
  | compare i left rest ihl ihr =>
      obtain ⟨hk, S⟩ := S.node
      obtain ⟨S1, S2⟩ := S.and
      obtain ⟨hne, S2⟩ := S2.nonempty
      unfold pyEval visit
      exact PySim.bind (ihl strict S1) fun lv l0 =>
        PySim.bind (visitCmp_sim ihr hne S2) fun r l1 => PySim.record_pure hk
  | ifexp i c t e ihc iht ihe =>
      obtain ⟨hk, S⟩ := S.node
      obtain ⟨S1, S2, S3⟩ := S.and₃
      unfold pyEval visit
      exact PySim.bind (ihc strict S1) fun cv l0 => PySim.lift fun b =>
        PySim.bind (PySim.ite (iht strict S2) (ihe strict S3)) fun r l1 => PySim.record_pure hk
  | display i es ih =>
      obtain ⟨hk, S⟩ := S.node
      unfold pyEval visit
      refine PySim.bind (visitList_sim ih S) fun vs l => ?_
      rw [any_isNone_map_some, filterMap_id_map_some]
      exact PySim.record_pure hk
  | comp i targets first inner ihf _ =>
      obtain ⟨hk, S⟩ := S.node
      have hi := List.forall_mem_append.mp S.inner
      unfold pyEval visit
      rw [hasPlaceholder_ofNames, values_ofNames]
      -- what the harvest of the other parts logs is not kept
      exact PySim.bind (ihf strict ⟨S.wf, S.faithful, S.outer, hi.1⟩).log_only fun _ l0 =>
        PySim.silent harvest_out (fun p hp => hi.2 p.1 (harvest_logIn ops env.builtins _ inner p hp))
          (PySim.lift fun r => PySim.record_pure hk)
  | starred i e _ => exact absurd S.wf Bool.false_ne_true
  | coll i kind es ih =>
      obtain ⟨hk, S⟩ := S.node
      unfold pyEval visit
      refine PySim.bind (visitElts_sim ih S) fun vs l => ?_
      rw [any_isNone_map_some, filterMap_id_map_some]
      exact PySim.lift fun r => PySim.record_pure hk
  | dict i items ih =>
      obtain ⟨hk, S⟩ := S.node
      unfold pyEval visit
      exact PySim.bind (visitItems_sim ih S) fun d l => PySim.record_pure hk
  | slice i lo hi step ih1 ih2 ih3 =>
      obtain ⟨hk, S⟩ := S.node
      obtain ⟨S1, S2, S3⟩ := S.and₃
      unfold pyEval visit
      exact PySim.bind (visitOpt_sim ih1 S1) fun a l1 => PySim.bind (visitOpt_sim ih2 S2) fun b l2 =>
        PySim.bind (visitOpt_sim ih3 S3) fun c l3 => PySim.record_pure hk
  | callkw i f args kws ihf iha ihk =>
      obtain ⟨hk, S⟩ := S.node
      obtain ⟨S1, S2, S3⟩ := S.and₃
      unfold pyEval visit
      refine PySim.bind (ihf strict S1) fun fv l0 => PySim.bind (visitArgs_sim iha S2) fun avs l1 =>
        PySim.bind (visitKws_sim (acc := []) ihk S3) fun kvs l2 => ?_
      rw [any_isNone_map_some, filterMap_id_map_some,
        show (kvs.map kwSome).any _ = false from hasPlaceholder_ofNames kvs,
        show (kvs.map kwSome).filterMap _ = kvs from values_ofNames kvs]
      exact PySim.lift fun r => PySim.record_pure hk
  | fvalue i e conv spec ihe ihs =>
      obtain ⟨S1, S2⟩ := S.node.2.and
      cases spec with
      | none =>
        unfold pyEval visit
        rw [VRes.pure_bind]
        refine PySim.bind (ihe strict S1) fun v l1 => PySim.py_bind fun sp h => ?_
        cases h
        refine PySim.lift fun r => ?_
        rw [List.append_nil]
        exact PySim.pure
      | some sp =>
        obtain rfl := S2.not_strict
        unfold pyEval visit
        exact PySim.swap <| PySim.bind (ihe false S1) fun v l1 =>
          PySim.bind (g := some) (PySim.bind (ihs sp rfl false (S2.relax _)) fun r l => PySim.pure) fun sp l2 =>
            PySim.lift fun r => PySim.pure
  | fstring i parts ih =>
      obtain ⟨hk, S⟩ := S.node
      unfold pyEval visit
      refine PySim.bind (visitList_sim ih S) fun vs l => ?_
      rw [any_isNone_map_some, filterMap_id_map_some]
      exact PySim.lift fun r => PySim.record_pure hk

theorem visitElts_py (ops : Ops) (env : Env) (keep : Nat → Bool) (strict : Bool) :
    ∀ (es : List Expr) (vs : List Val) (P : Log),
    wfElts es = true → (strict = true → orderFaithfulList es = true) →
    (∀ i ∈ outerIdsList es, keep i = true) → (∀ i ∈ innerIdsList es, keep i = false) →
    pyEvalElts ops env es = .ok (vs, P) →
    (visitElts ops env.builtins (Tbl.ofNames env.names) es).out = .ok (vs.map some) ∧
    LogRel strict ((visitElts ops env.builtins (Tbl.ofNames env.names) es).log.filter (fun p => keep p.1)) P :=
  fun _ _ _ hw hs ho hi =>
    (visitElts_sim (fun e _ => ⟨visit_py e, fun _ e' _ => visit_py e'⟩) ⟨hw, hs, ho, hi⟩).run

theorem visitArgs_py (ops : Ops) (env : Env) (keep : Nat → Bool) (strict : Bool) :
    ∀ (es : List Expr) (vs : List Val) (P : Log),
    wfElts es = true → (strict = true → orderFaithfulList es = true) →
    (∀ i ∈ outerIdsList es, keep i = true) → (∀ i ∈ innerIdsList es, keep i = false) →
    pyEvalElts ops env es = .ok (vs, P) →
    (visitArgs ops env.builtins (Tbl.ofNames env.names) es).out = .ok (some (vs.map some)) ∧
    LogRel strict ((visitArgs ops env.builtins (Tbl.ofNames env.names) es).log.filter (fun p => keep p.1)) P :=
  fun _ _ _ hw hs ho hi =>
    (visitArgs_sim (fun e _ => ⟨visit_py e, fun _ e' _ => visit_py e'⟩) ⟨hw, hs, ho, hi⟩).run

theorem visitKws_py (ops : Ops) (env : Env) (keep : Nat → Bool) (strict : Bool) :
    ∀ (kws : List (Option String × Expr)) (acc r : List (String × Val)) (P : Log),
    wfKws kws = true → (strict = true → orderFaithfulKws kws = true) →
    (∀ i ∈ outerIdsKws kws, keep i = true) → (∀ i ∈ innerIdsKws kws, keep i = false) →
    pyEvalKws ops env acc kws = .ok (r, P) →
    (visitKws ops env.builtins (Tbl.ofNames env.names) (acc.map kwSome) kws).out = .ok (r.map kwSome) ∧
    LogRel strict ((visitKws ops env.builtins (Tbl.ofNames env.names) (acc.map kwSome) kws).log.filter
      (fun p => keep p.1)) P :=
  fun _ _ _ _ hw hs ho hi => (visitKws_sim (fun p _ => visit_py p.2) ⟨hw, hs, ho, hi⟩).run

theorem visitItems_py (ops : Ops) (env : Env) (keep : Nat → Bool) (strict : Bool) :
    ∀ (items : List (Option Expr × Expr)) (d r : Val) (P : Log),
    wfItems items = true → (strict = true → orderFaithfulItems items = true) →
    (∀ i ∈ outerIdsItems items, keep i = true) → (∀ i ∈ innerIdsItems items, keep i = false) →
    pyEvalItems ops env d items = .ok (r, P) →
    (visitItems ops env.builtins (Tbl.ofNames env.names) d false items).out = .ok (r, false) ∧
    LogRel strict ((visitItems ops env.builtins (Tbl.ofNames env.names) d false items).log.filter
      (fun p => keep p.1)) P :=
  fun _ _ _ _ hw hs ho hi =>
    (visitItems_sim (fun p _ => ⟨fun k _ => visit_py k, visit_py p.2⟩) ⟨hw, hs, ho, hi⟩).run

theorem visitOpt_py (ops : Ops) (env : Env) (keep : Nat → Bool) (strict : Bool) :
    ∀ (o : Option Expr) (v : Val) (P : Log),
    wfOpt o = true → (strict = true → orderFaithfulOpt o = true) →
    (∀ i ∈ outerIdsOpt o, keep i = true) → (∀ i ∈ innerIdsOpt o, keep i = false) →
    pyEvalOpt ops env o = .ok (v, P) →
    (visitOpt ops env.builtins (Tbl.ofNames env.names) o).out = .ok (some v) ∧
    LogRel strict ((visitOpt ops env.builtins (Tbl.ofNames env.names) o).log.filter (fun p => keep p.1)) P :=
  fun _ _ _ hw hs ho hi => (visitOpt_sim (fun e _ => visit_py e) ⟨hw, hs, ho, hi⟩).run

theorem visitList_py (ops : Ops) (env : Env) (keep : Nat → Bool) (strict : Bool) :
    ∀ (es : List Expr) (vs : List Val) (P : Log),
    wfList es = true → (strict = true → orderFaithfulList es = true) →
    (∀ i ∈ outerIdsList es, keep i = true) → (∀ i ∈ innerIdsList es, keep i = false) →
    pyEvalList ops env es = .ok (vs, P) →
    (visitList ops env.builtins (Tbl.ofNames env.names) es).out = .ok (vs.map some) ∧
    LogRel strict ((visitList ops env.builtins (Tbl.ofNames env.names) es).log.filter (fun p => keep p.1)) P :=
  fun _ _ _ hw hs ho hi => (visitList_sim (fun e _ => visit_py e) ⟨hw, hs, ho, hi⟩).run

theorem visitBool_py (ops : Ops) (env : Env) (keep : Nat → Bool) (strict : Bool) : ∀ (isAnd : Bool) (last : Option Val)
    (es : List Expr) (v : Val) (P : Log),
    es.isEmpty = false → wfList es = true → (strict = true → orderFaithfulList es = true) →
    (∀ i ∈ outerIdsList es, keep i = true) → (∀ i ∈ innerIdsList es, keep i = false) →
    pyEvalBool ops env isAnd es = .ok (v, P) →
    (visitBool ops env.builtins (Tbl.ofNames env.names) isAnd false last es).out = .ok (some v) ∧
    LogRel strict ((visitBool ops env.builtins (Tbl.ofNames env.names) isAnd false last es).log.filter
      (fun p => keep p.1)) P :=
  fun _ _ _ _ _ hne hw hs ho hi => (visitBool_sim (fun e _ => visit_py e) hne ⟨hw, hs, ho, hi⟩).run

theorem visitCmp_py (ops : Ops) (env : Env) (keep : Nat → Bool) (strict : Bool) : ∀ (left : Val) (result : Option Val)
    (es : List (CmpOp × Expr)) (v : Val) (P : Log),
    es.isEmpty = false → wfCmp es = true → (strict = true → orderFaithfulCmp es = true) →
    (∀ i ∈ outerIdsCmp es, keep i = true) → (∀ i ∈ innerIdsCmp es, keep i = false) →
    pyEvalCmp ops env left es = .ok (v, P) →
    (visitCmp ops env.builtins (Tbl.ofNames env.names) false (some left) result es).out = .ok (some v) ∧
    LogRel strict ((visitCmp ops env.builtins (Tbl.ofNames env.names) false (some left) result es).log.filter
      (fun p => keep p.1)) P :=
  fun _ _ _ _ _ hne hw hs ho hi => (visitCmp_sim (fun p _ => visit_py p.2) hne ⟨hw, hs, ho, hi⟩).run

end Icontract.Ex
