/-
  Lemmas for the C04 chain theorem: single-inheritance chains of any depth built by
  `buildChain` (Spec/ChainHistory.lean) over the heap model of the metaclass (Meta.lean).
  Unlike for the histories of DagLemmas.lean, acceptance is part of the claim.  What is particular to a chain: the MRO
  of class `n` is `[n, ..., 1]` (so `computeMro` succeeds), and every level shows a precondition (so nothing is refused
  as a weakening, `member_accepts`).  The class table is that of the history `chainDefs` (`DClassInv`); what a level's
  function shows after its class statement is `member_step` for the single base, read directly as the chain so far. -/
import IcontractModel.Lemmas.Shows
import IcontractModel.Lemmas.ClassTable
namespace Icontract.Meta

/-- `[n, n-1, ..., 1]`: the MRO of class `n` of a chain -/
def desc : Nat → List Nat
  | 0 => []
  | n + 1 => (n + 1) :: desc n

theorem le_of_mem_desc {n x : Nat} : x ∈ desc n → x ≤ n := by
  induction n with
  | zero => exact (nomatch ·)
  | succ n ih => exact fun h => (List.mem_cons.mp h).elim Nat.le_of_eq (fun h => Nat.le_succ_of_le (ih h))

theorem desc_nodup {n : Nat} : (desc n).Nodup := by
  induction n with
  | zero => exact List.nodup_nil
  | succ n ih => exact List.nodup_cons.mpr ⟨fun h => Nat.not_succ_le_self n (le_of_mem_desc h), ih⟩

theorem upTo_last {done : List ChainLevel} {m : Nat} (h : done.length = m + 1) : upTo done m = done := by
  unfold upTo
  rw [← h, List.take_length]

theorem upTo_append_lt {done : List ChainLevel} (l : ChainLevel) {i : Nat} (hi : i < done.length) :
    upTo (done ++ [l]) i = upTo done i := by
  unfold upTo
  exact List.take_append_of_le_length hi

/-- the base of the class after `n` levels: the class before it -/
def baseOf : Nat → Option ClsId
  | 0 => none
  | n + 1 => some (n + 1)

theorem mem_baseOf {n b : Nat} (h : b ∈ (baseOf n).toList) : 1 ≤ b ∧ b ≤ n := by
  cases n with
  | zero => cases h
  | succ m => cases List.mem_singleton.mp h; exact ⟨Nat.succ_pos m, Nat.le_refl _⟩

/-- the class statements of a chain, as a history -/
def chainDefs (key : String) (ls : List ChainLevel) : List ClassDef :=
  ls.mapIdx (fun i l => ⟨(baseOf i).toList, [(key, l)]⟩)

theorem chainDefs_length (key : String) (ls : List ChainLevel) : (chainDefs key ls).length = ls.length :=
  List.length_mapIdx

/-- the class table after the levels `done` is that of the history `chainDefs key done`; what a chain adds is that
the MRO of class `k` is `[k, ..., 1]` -/
structure ChainClassInv (key : String) (w : World) (done : List ChainLevel) : Prop where
  table : DClassInv w (chainDefs key done)
  mro : ∀ k c, w.cls? k = some c → c.mro = desc k

theorem ChainClassInv.member_eq {key : String} {w : World} {done : List ChainLevel}
    (a : ChainClassInv key w done) (i : Nat) (hi : i < done.length) :
    lookupMember w (i + 1) key = some (.func (done[i]).f) := by
  obtain ⟨c, hc, ok⟩ := a.table.clsSome i (by rw [chainDefs_length]; exact hi)
  -- (`beq_self_eq_true` would look for `ReflBEq String` through the order instances: slow)
  have hkey : (key == key) = true := beq_iff_eq.mpr rfl
  simp only [lookupMember_eq, mroOf_eq hc, a.mro _ c hc, desc, List.findSome?_cons, hc, Option.bind_some, ok.ns,
    chainDefs, List.getElem_mapIdx, List.map_cons, List.map_nil, List.find?_cons, hkey, Option.map_some]

theorem ChainClassInv.of_classes {key : String} {w w' : World} {done : List ChainLevel}
    (a : ChainClassInv key w done) (h : w'.classes = w.classes) : ChainClassInv key w' done :=
  ⟨a.table.of_classes h, fun k c hc => a.mro k c (cls?_of_classes h k ▸ hc)⟩

theorem ChainClassInv.snoc {key : String} {w : World} {done : List ChainLevel} (a : ChainClassInv key w done)
    (l : ChainLevel) (c : Cls) (hid : c.id = done.length + 1)
    (ok : DClsOk c done.length ⟨(baseOf done.length).toList, [(key, l)]⟩) (hmro : c.mro = desc (done.length + 1)) :
    ChainClassInv key (withCls w c) (done ++ [l]) := by
  have hlen := chainDefs_length key done
  rw [← hlen] at hid
  obtain ⟨hnew, hold⟩ := a.table.withCls_cls? hid
  constructor
  · have := a.table.snoc ⟨(baseOf done.length).toList, [(key, l)]⟩ c hid (hlen ▸ ok)
      (fun b hb => hlen ▸ mem_baseOf hb) (List.nodup_cons.mpr ⟨List.not_mem_nil, List.nodup_nil⟩)
    simpa only [chainDefs, List.mapIdx_concat] using this
  · intro k c' hc'
    by_cases hk : k = (chainDefs key done).length + 1
    · rw [hk, hnew] at hc'
      rw [hk, hlen, ← Option.some.inj hc']
      exact hmro
    · rw [hold k hk] at hc'
      exact a.mro k c' hc'

theorem ChainClassInv.computeMro_eq {key : String} {w : World} {done : List ChainLevel}
    (a : ChainClassInv key w done) :
    computeMro w (done.length + 1) (baseOf done.length).toList = some (desc (done.length + 1)) := by
  cases hd : done.length with
  | zero => exact computeMro_nil w 1
  | succ m =>
    have hlt : m < done.length := hd ▸ Nat.lt_succ_self m
    obtain ⟨c, hc, _⟩ := a.table.clsSome m (by rw [chainDefs_length]; exact hlt)
    have hm := a.mro _ c hc
    exact (computeMro_single (m + 2) hc hm (hm ▸ desc_nodup)).trans (by rw [hm]; rfl)

/-- the function of level `i` shows the groups and postconditions of the levels `0 .. i` -/
def ChainCkInv (w : World) (done : List ChainLevel) : Prop :=
  ∀ i (hi : i < done.length),
    FnSt w (done[i]).f ((upTo done i).map (·.pre)) [] ((upTo done i).flatMap (·.posts))

/-- what `buildChain` keeps level by level -/
structure ChainInv (key : String) (w : World) (done : List ChainLevel) : Prop where
  cls : ChainClassInv key w done
  ckNone : ∀ f, f ∉ done.map (·.f) → w.checker? f = none
  ck : ChainCkInv w done

theorem ChainInv.empty (key : String) {w : World} (hc : w.classes = []) (hk : w.checkers = []) :
    ChainInv key w [] :=
  ⟨⟨DClassInv.empty hc, fun _ _ h => by rw [World.cls?, hc] at h; cases h⟩, fun _ _ => by rw [World.checker?, hk]; rfl,
    fun _ hi => absurd hi (Nat.not_lt_zero _)⟩

/-- `member_accepts` / `member_step` for the single base, if any: the class of the last level, whose function shows the
whole chain so far (the bases' functions are indexed by `done.getLast?.toList`) -/
theorem chain_member {key : String} {w : World} {done : List ChainLevel} {l : ChainLevel}
    (a : ChainClassInv key w done) (b : ChainCkInv w done) (hown : FnSt w l.f (ownGroups l.pre) [] l.posts)
    (hpre : l.pre ≠ []) (hne : ∀ p ∈ done, p.f ≠ l.f) :
    basesFor w (baseOf done.length).toList key l.f = (baseOf done.length).toList ∧
    ∃ w2, decorateOne w key l.f true (collectBases w (baseOf done.length).toList key) = .ok w2 ∧
      FnSt w2 l.f ((done ++ [l]).map (·.pre)) [] ((done ++ [l]).flatMap (·.posts)) := by
  obtain ⟨hb, hp⟩ : (baseOf done.length).toList.filterMap (fun x => lookupMember w x key) =
        done.getLast?.toList.map (fun p => Member.func p.f) ∧
      ∀ p ∈ done.getLast?.toList, p ∈ done ∧ FnSt w p.f (done.map (·.pre)) [] (done.flatMap (·.posts)) := by
    rw [List.getLast?_eq_getElem?]
    cases hd : done.length with
    | zero =>
      obtain rfl := List.eq_nil_of_length_eq_zero hd
      exact ⟨rfl, fun _ h => nomatch h⟩
    | succ m =>
      have hm : m < done.length := hd ▸ Nat.lt_succ_self m
      have st := b m hm
      rw [upTo_last hd] at st
      simp only [baseOf, Option.toList, List.filterMap_cons, a.member_eq m hm, List.filterMap_nil,
        Nat.add_sub_cancel, List.getElem?_eq_getElem hm, List.map_cons, List.map_nil, List.mem_singleton, true_and]
      rintro p rfl
      exact ⟨List.getElem_mem hm, st⟩
  -- accepted: the only base shows a precondition, and there are no snapshots
  obtain ⟨w2, hdec⟩ := member_accepts (f := l.f) (S := fun _ => []) hb (fun p hm => (hp p hm).2)
    (fun p hm e => List.ne_nil_of_mem (hp p hm).1 (List.map_eq_nil_iff.mp e))
    (by rw [hown.snaps, List.append_nil, List.flatMap_eq_nil_iff.mpr (fun _ _ => rfl)]; exact List.nodup_nil)
  refine ⟨basesFor_eq_of_members hb (fun p hm => hne p (hp p hm).1), w2, hdec, ?_⟩
  have st := member_step hb (fun p hm => (hp p hm).2) hown hdec
  have he := ownGroups_of_ne_nil hpre
  cases hg : done.getLast? with
  | none =>
    obtain rfl := List.getLast?_eq_none_iff.mp hg
    simpa [he] using st
  | some x =>
    have hne : done ≠ [] := fun e => nomatch e ▸ hg
    simpa [hg, he, hne] using st

theorem chain_step {key : String} (hkey : key ≠ "__init__" ∧ key ≠ "__new__") {w : World}
    {done : List ChainLevel} {l : ChainLevel} (inv : ChainInv key w done)
    (hfresh : l.f ∉ done.map (·.f)) (hpre : l.pre ≠ []) :
    ∃ w', defineClass (declareFn w l) (done.length + 1) (baseOf done.length).toList [(key, .func l.f)] true
        = .ok w' ∧ ChainInv key w' (done ++ [l]) := by
  have hnone := inv.ckNone l.f hfresh
  have hne : ∀ p ∈ done, p.f ≠ l.f := fun p hp e => hfresh (e ▸ List.mem_map.mpr ⟨p, hp, rfl⟩)
  obtain ⟨fr01, sn01, hown⟩ := declareFn_spec hnone
  generalize declareFn w l = w1 at fr01 sn01 hown ⊢
  have hcls1 : ChainClassInv key w1 done := inv.cls.of_classes fr01.classes
  have hck1 : ChainCkInv w1 done := fun i hi => (inv.ck i hi).frame fr01 sn01 (hne _ (List.getElem_mem hi))
  obtain ⟨hbf, w2, hdec, st⟩ := chain_member hcls1 hck1 hown hpre hne
  have fr12 := decorateOne_frame hdec
  have sn12 := decorateOne_snapNames hdec
  have hcls2 : ChainClassInv key w2 done := hcls1.of_classes fr12.classes
  have hcls3 := hcls2.snoc l (newCI (done.length + 1) (baseOf done.length).toList [(key, .func l.f)]
    (desc (done.length + 1)) none none none) rfl
    ⟨rfl, rfl, rfl, fun _ => le_of_mem_desc, fun d => by cases d <;> rfl⟩ rfl
  refine ⟨_, (defineClass_noinv (fun b _ d => hcls1.table.lookupInv_none b d)).mpr
    ⟨w2, _, ?_, hcls2.computeMro_eq, (finishCls_none (hcls3.table.lookupInv_none _ _)).symm⟩, hcls3, ?_, ?_⟩
  · simp only [List.foldlM_cons, List.foldlM_nil, decorateMember_func hkey, hbf, hdec, bind, Except.bind, pure,
      Except.pure]
  · intro f hf
    have hf1 : f ≠ l.f := fun e =>
      hf (List.mem_map.mpr ⟨l, List.mem_append_right _ (List.mem_singleton_self l), e.symm⟩)
    have hf2 : f ∉ done.map (·.f) := fun e => hf (List.map_append ▸ List.mem_append_left _ e)
    show w2.checker? f = none
    rw [fr12.checkers f hf1, fr01.checkers f hf1]
    exact inv.ckNone f hf2
  · refine forall_getElem_snoc (P := fun i x => FnSt _ x.f ((upTo (done ++ [l]) i).map (·.pre)) []
      ((upTo (done ++ [l]) i).flatMap (·.posts))) done l (fun i hlt => ?_) ?_
    · rw [upTo_append_lt l hlt]
      exact ((hck1 i hlt).frame fr12 sn12 (hne _ (List.getElem_mem hlt))).withCls _
    · rw [upTo_last List.length_append]
      exact st.withCls _

theorem buildChain_inv {key : String} (hkey : key ≠ "__init__" ∧ key ≠ "__new__") (ls : List ChainLevel) :
    ∀ (done : List ChainLevel) (w : World), ChainInv key w done →
      ((done ++ ls).map (·.f)).Nodup → (∀ l ∈ ls, l.pre ≠ []) →
      ∃ w', buildChain key w (baseOf done.length) (done.length + 1) ls = .ok w' ∧
        ChainInv key w' (done ++ ls) := by
  induction ls with
  | nil =>
    intro done w inv _ _
    exact ⟨w, rfl, by rw [List.append_nil]; exact inv⟩
  | cons l rest ih =>
    intro done w inv hnd hpre
    have hfresh : l.f ∉ done.map (·.f) := fun hmem =>
      (List.nodup_append.mp (List.map_append ▸ hnd)).2.2 _ hmem _ List.mem_cons_self rfl
    rw [List.append_cons] at hnd ⊢
    obtain ⟨w1, hdef, inv1⟩ := chain_step hkey inv hfresh (hpre l List.mem_cons_self)
    obtain ⟨w', hb, inv'⟩ := ih (done ++ [l]) w1 inv1 hnd (fun x hx => hpre x (List.mem_cons_of_mem _ hx))
    rw [List.length_append] at hb
    exact ⟨w', by rw [buildChain, hdef]; exact hb, inv'⟩

end Icontract.Meta
