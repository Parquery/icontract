/-
  Sequencing (`andThen`) with its rules, and the one-step equations of `Re.run` / `Re.runSpec` in that
  form: whatever is proved about the two evaluators (C10, C03(b)) goes through these equations and never
  unfolds the evaluators.  The three kinds of condition list are one case of every such proof
  (`IsConds`, `Cmd.conds_cases`, with `IsConds.run_nil` / `run_cons` / `runSpec_nil` / `runSpec_cons`); the
  equations of each kind (`run_pres_cons` ..) are for statements that name the kind.
-/
import IcontractModel.Spec.Frames
namespace Icontract.Re

/-- sequencing: continue with `k` when the first evaluation finished normally -/
def andThen {σ : Type} (r : σ × Out) (k : σ → σ × Out) : σ × Out :=
  match r with
  | (st', .ok) => k st'
  | r => r

theorem andThen_mk_ok {σ} (s : σ) (k : σ → σ × Out) : andThen (s, .ok) k = k s := rfl

theorem andThen_ok {σ} {r : σ × Out} {k : σ → σ × Out} (h : r.2 = .ok) : andThen r k = k r.1 := by
  rcases r with ⟨s, o⟩
  cases h
  rfl

theorem andThen_ne {σ} {r : σ × Out} {k : σ → σ × Out} (h : r.2 ≠ .ok) : andThen r k = r := by
  rcases r with ⟨s, o⟩
  cases o with
  | ok => exact absurd rfl h
  | _ => rfl

theorem andThen_cases {σ} {Q : σ × Out → Prop} {r : σ × Out} {k : σ → σ × Out}
    (hk : r.2 = .ok → Q (k r.1)) (hr : r.2 ≠ .ok → Q r) : Q (andThen r k) := by
  by_cases h : r.2 = .ok
  · rw [andThen_ok h]; exact hk h
  · rw [andThen_ne h]; exact hr h

theorem andThen_fst {σ} {Q : σ → Prop} {r : σ × Out} {k : σ → σ × Out} (h1 : Q r.1)
    (h2 : ∀ s, Q s → Q (k s).1) : Q (andThen r k).1 :=
  andThen_cases (Q := fun x => Q x.1) (fun _ => h2 _ h1) (fun _ => h1)

theorem andThen_snd_timeout {σ} {r : σ × Out} {k : σ → σ × Out} (h : r.2 = .timeout) :
    (andThen r k).2 = .timeout :=
  andThen_cases (Q := fun x => x.2 = .timeout) (fun e => by rw [h] at e; cases e) (fun _ => h)

/-- `finally: discard` -/
def fin (k : Key) (r : St × Out) : St × Out := (r.1.discard k, r.2)

theorem fin_snd (k : Key) (r : St × Out) : (fin k r).2 = r.2 := rfl
theorem fin_fst_tr (k : Key) (r : St × Out) : (fin k r).1.tr = r.1.tr := rfl

def Program.meth? (p : Program) (i : InstId) (m : MethId) : Option (ClsDecl × MethDecl) :=
  (p.cls? (p.clsOf i)).bind (fun c => c.meths[m]?.map (fun md => (c, md)))

theorem Program.meth?_eq_some_iff {p : Program} {i m c md} :
    p.meth? i m = some (c, md) ↔ p.cls? (p.clsOf i) = some c ∧ c.meths[m]? = some md := by
  unfold Program.meth?
  cases p.cls? (p.clsOf i) with
  | none => exact ⟨nofun, fun h => nomatch h.1⟩
  | some c' =>
    rw [Option.bind_some, Option.map_eq_some_iff]
    constructor
    · rintro ⟨md', hm, e⟩; cases e; exact ⟨rfl, hm⟩
    · rintro ⟨e, hm⟩; cases e; exact ⟨md, hm, rfl⟩

theorem Program.meth?_cases (p : Program) (i m) :
    p.meth? i m = none ∨ ∃ c md, p.meth? i m = some (c, md) := by
  cases h : p.meth? i m with
  | none => exact .inl rfl
  | some x => exact .inr ⟨x.1, x.2, rfl⟩

theorem fn?_mem {p : Program} {f : FnId} {d : FnDecl} (h : p.fn? f = some d) : d ∈ p.fns :=
  List.mem_of_getElem? h

theorem cls?_mem {p : Program} {cid : ClsId} {c : ClsDecl} (h : p.cls? cid = some c) : c ∈ p.classes :=
  List.mem_of_getElem? h

theorem meth?_mem {p : Program} {i m c md} (h : p.meth? i m = some (c, md)) :
    c ∈ p.classes ∧ md ∈ c.meths :=
  let ⟨hc, hm⟩ := Program.meth?_eq_some_iff.1 h
  ⟨cls?_mem hc, List.mem_of_getElem? hm⟩

-- Lean generates the equation lemmas of a recursive definition when they are first asked for, and a
-- proof, being elaborated on a branch of its own, drops them again: every `rw [run]` below would
-- generate them anew, which is slow to check.  The attribute asks for them here, once, and they stay
-- for this module and those that import it; no `simp` call relies on it.
attribute [local simp] run runSpec

section run
variable {p : Program} {v : Variant} {n : Nat} {st : St}

theorem run_zero (cmd : Cmd) : run p v 0 st cmd = (st, .timeout) := rfl

theorem run_script (s : Script) : run p v (n+1) st (.script s) = run p v n st (.acts s.actions) := rfl

theorem run_acts_nil : run p v (n+1) st (.acts []) = (st, .ok) := rfl

theorem run_acts_cons (a : Action) (rest : List Action) : run p v (n+1) st (.acts (a :: rest)) =
    andThen (run p v n st (.act a)) (fun st' => run p v n st' (.acts rest)) := by
  rw [run]
  rcases run p v n st (.act a) with ⟨s, o⟩
  cases o <;> rfl

theorem run_pres_nil (f k) : run p v (n+1) st (.pres f k []) = (st, .ok) := rfl

theorem run_pres_cons (f k c cs) : run p v (n+1) st (.pres f k (c :: cs)) =
    andThen (run p v n (st.emit (.cond f k)) (.script c))
      (fun st' => if c.truthy then run p v n st' (.pres f (k + 1) cs) else (st', .violPre f k)) := by
  rw [run]
  rcases run p v n (st.emit (.cond f k)) (.script c) with ⟨s, o⟩
  cases o <;> rfl

theorem run_posts_nil (f k) : run p v (n+1) st (.posts f k []) = (st, .ok) := rfl

theorem run_posts_cons (f k c cs) : run p v (n+1) st (.posts f k (c :: cs)) =
    andThen (run p v n (st.emit (.post f k)) (.script c))
      (fun st' => if c.truthy then run p v n st' (.posts f (k + 1) cs) else (st', .violPost f k)) := by
  rw [run]
  rcases run p v n (st.emit (.post f k)) (.script c) with ⟨s, o⟩
  cases o <;> rfl

theorem run_invs_nil (i k) : run p v (n+1) st (.invs i k []) = (st, .ok) := rfl

theorem run_invs_cons (i k c cs) : run p v (n+1) st (.invs i k (c :: cs)) =
    andThen (run p v n (st.emit (.inv i k)) (.script c))
      (fun st' => if c.truthy then run p v n st' (.invs i (k + 1) cs) else (st', .violInv i k)) := by
  rw [run]
  rcases run p v n (st.emit (.inv i k)) (.script c) with ⟨s, o⟩
  cases o <;> rfl

theorem run_callFn_none {f} (h : p.fn? f = none) :
    run p v (n+1) st (.act (.callFn f)) = (st, .ok) := by
  rw [run, h]

theorem run_callFn_bare {f d} (h : p.fn? f = some d) (hc : st.s.contains (.fn f) = true) :
    run p v (n+1) st (.act (.callFn f)) =
      (if v.shortcutDiscards then (run p v n (st.emit (.body f)) (.script d.body)).1.discard (.fn f)
        else (run p v n (st.emit (.body f)) (.script d.body)).1,
       (run p v n (st.emit (.body f)) (.script d.body)).2) := by
  rw [run, h]
  exact if_pos hc

theorem run_callFn_checked {f d} (h : p.fn? f = some d) (hc : st.s.contains (.fn f) = false) :
    run p v (n+1) st (.act (.callFn f)) =
    fin (.fn f) (andThen (run p v n (st.add (.fn f)) (.pres f 0 d.pre)) fun st1 =>
      andThen (run p v n ((if v.idDuringBody then st1 else st1.discard (.fn f)).emit (.body f))
          (.script d.body)) fun st2 =>
        run p v n (if v.idDuringBody then st2 else st2.add (.fn f)) (.posts f 0 d.post)) := by
  rw [run, h]
  refine (if_neg (Bool.eq_false_iff.1 hc)).trans ?_
  dsimp only
  rcases run p v n (st.add (.fn f)) (.pres f 0 d.pre) with ⟨s1, o1⟩
  cases o1 with
  | ok =>
    simp only [andThen_mk_ok]
    rcases run p v n ((if v.idDuringBody then s1 else s1.discard (.fn f)).emit (.body f)) (.script d.body) with ⟨s2, o2⟩
    cases o2 <;> rfl
  | _ => rfl

theorem run_callMethod_none {i m} (h : p.meth? i m = none) :
    run p v (n+1) st (.act (.callMethod i m)) = (st, .ok) := by
  unfold Program.meth? at h
  rw [run, h]

theorem run_callMethod_bare {i m c md} (h : p.meth? i m = some (c, md))
    (hc : (!md.guarded || st.s.contains (.inst i)) = true) :
    run p v (n+1) st (.act (.callMethod i m)) =
      run p v n (st.emit (.methBody i m)) (.script md.body) := by
  unfold Program.meth? at h
  rw [run, h]
  exact if_pos hc

theorem run_callMethod_checked {i m c md} (h : p.meth? i m = some (c, md))
    (hc : (!md.guarded || st.s.contains (.inst i)) = false) :
    run p v (n+1) st (.act (.callMethod i m)) =
    fin (.inst i) (andThen (run p v n (st.add (.inst i)) (.invs i 0 c.invs)) fun st1 =>
      andThen (run p v n (st1.emit (.methBody i m)) (.script md.body)) fun st2 =>
        run p v n st2 (.invs i 0 c.invs)) := by
  unfold Program.meth? at h
  rw [run, h]
  refine (if_neg (Bool.eq_false_iff.1 hc)).trans ?_
  dsimp only
  rcases run p v n (st.add (.inst i)) (.invs i 0 c.invs) with ⟨s1, o1⟩
  cases o1 with
  | ok =>
    simp only [andThen_mk_ok]
    rcases run p v n (s1.emit (.methBody i m)) (.script md.body) with ⟨s2, o2⟩
    cases o2 <;> rfl
  | _ => rfl

theorem run_construct (i) :
    run p v (n+1) st (.act (.construct i)) = run p v n st (.act (.superInit i (p.clsOf i))) := rfl

theorem run_superInit_none {i cid} (h : p.cls? cid = none) :
    run p v (n+1) st (.act (.superInit i cid)) = (st, .ok) := by
  rw [run, h]

theorem run_superInit_bare {i cid c} (h : p.cls? cid = some c)
    (hc : (!c.initWrapped || (v.ctorTestsMembership && st.s.contains (.inst i))) = true) :
    run p v (n+1) st (.act (.superInit i cid)) =
      run p v n (st.emit (.initBody i cid)) (.script c.init) := by
  rw [run, h]
  exact if_pos hc

theorem run_superInit_checked {i cid c} (h : p.cls? cid = some c)
    (hc : (!c.initWrapped || (v.ctorTestsMembership && st.s.contains (.inst i))) = false) :
    run p v (n+1) st (.act (.superInit i cid)) =
    fin (.inst i) (andThen (run p v n ((st.add (.inst i)).emit (.initBody i cid)) (.script c.init))
      fun st1 => run p v n st1 (.invs i 0 (((p.cls? (p.clsOf i)).map (·.invs)).getD []))) := by
  rw [run, h]
  refine (if_neg (Bool.eq_false_iff.1 hc)).trans ?_
  dsimp only
  rcases run p v n ((st.add (.inst i)).emit (.initBody i cid)) (.script c.init) with ⟨s1, o1⟩
  cases o1 <;> rfl

theorem run_callFn_bare_repaired {f d} (h : p.fn? f = some d) (hc : st.s.contains (.fn f) = true) :
    run p .repaired (n+1) st (.act (.callFn f)) = run p .repaired n (st.emit (.body f)) (.script d.body) :=
  run_callFn_bare h hc

theorem run_callFn_checked_repaired {f d} (h : p.fn? f = some d)
    (hc : st.s.contains (.fn f) = false) :
    run p .repaired (n+1) st (.act (.callFn f)) =
    fin (.fn f) (andThen (run p .repaired n (st.add (.fn f)) (.pres f 0 d.pre)) fun st1 =>
      andThen (run p .repaired n ((st1.discard (.fn f)).emit (.body f)) (.script d.body)) fun st2 =>
        run p .repaired n (st2.add (.fn f)) (.posts f 0 d.post)) :=
  run_callFn_checked h hc

theorem run_superInit_bare_repaired {i cid c} (h : p.cls? cid = some c)
    (hc : (!c.initWrapped || st.s.contains (.inst i)) = true) :
    run p .repaired (n+1) st (.act (.superInit i cid)) =
      run p .repaired n (st.emit (.initBody i cid)) (.script c.init) :=
  run_superInit_bare h hc

theorem run_superInit_checked_repaired {i cid c} (h : p.cls? cid = some c)
    (hc : (!c.initWrapped || st.s.contains (.inst i)) = false) :
    run p .repaired (n+1) st (.act (.superInit i cid)) =
    fin (.inst i) (andThen (run p .repaired n ((st.add (.inst i)).emit (.initBody i cid)) (.script c.init))
      fun st1 => run p .repaired n st1 (.invs i 0 (((p.cls? (p.clsOf i)).map (·.invs)).getD []))) :=
  run_superInit_checked h hc

end run

section runSpec
variable {p : Program} {n : Nat} {st : SSt}

theorem runSpec_zero (cmd : Cmd) : runSpec p 0 st cmd = (st, .timeout) := rfl

theorem runSpec_script (s : Script) :
    runSpec p (n+1) st (.script s) = runSpec p n st (.acts s.actions) := rfl

theorem runSpec_acts_nil : runSpec p (n+1) st (.acts []) = (st, .ok) := rfl

theorem runSpec_acts_cons (a : Action) (rest : List Action) :
    runSpec p (n+1) st (.acts (a :: rest)) =
    andThen (runSpec p n st (.act a)) (fun st' => runSpec p n st' (.acts rest)) := by
  rw [runSpec]
  rcases runSpec p n st (.act a) with ⟨s, o⟩
  cases o <;> rfl

theorem runSpec_pres_nil (f k) : runSpec p (n+1) st (.pres f k []) = (st, .ok) := rfl

theorem runSpec_pres_cons (f k c cs) : runSpec p (n+1) st (.pres f k (c :: cs)) =
    andThen (runSpec p n (st.emit (.cond f k)) (.script c))
      (fun st' => if c.truthy then runSpec p n st' (.pres f (k + 1) cs) else (st', .violPre f k)) := by
  rw [runSpec]
  rcases runSpec p n (st.emit (.cond f k)) (.script c) with ⟨s, o⟩
  cases o <;> rfl

theorem runSpec_posts_nil (f k) : runSpec p (n+1) st (.posts f k []) = (st, .ok) := rfl

theorem runSpec_posts_cons (f k c cs) : runSpec p (n+1) st (.posts f k (c :: cs)) =
    andThen (runSpec p n (st.emit (.post f k)) (.script c))
      (fun st' => if c.truthy then runSpec p n st' (.posts f (k + 1) cs) else (st', .violPost f k)) := by
  rw [runSpec]
  rcases runSpec p n (st.emit (.post f k)) (.script c) with ⟨s, o⟩
  cases o <;> rfl

theorem runSpec_invs_nil (i k) : runSpec p (n+1) st (.invs i k []) = (st, .ok) := rfl

theorem runSpec_invs_cons (i k c cs) : runSpec p (n+1) st (.invs i k (c :: cs)) =
    andThen (runSpec p n (st.emit (.inv i k)) (.script c))
      (fun st' => if c.truthy then runSpec p n st' (.invs i (k + 1) cs) else (st', .violInv i k)) := by
  rw [runSpec]
  rcases runSpec p n (st.emit (.inv i k)) (.script c) with ⟨s, o⟩
  cases o <;> rfl

theorem runSpec_callFn_none {f} (h : p.fn? f = none) :
    runSpec p (n+1) st (.act (.callFn f)) = (st, .ok) := by
  rw [runSpec, h]

theorem runSpec_callFn_bare {f d} (h : p.fn? f = some d) (hc : st.fnSuspended f = true) :
    runSpec p (n+1) st (.act (.callFn f)) =
      framed (.fn f) .fnBody st (fun st => runSpec p n (st.emit (.body f)) (.script d.body)) := by
  rw [runSpec, h]
  exact if_pos hc

theorem runSpec_callFn_checked {f d} (h : p.fn? f = some d) (hc : st.fnSuspended f = false) :
    runSpec p (n+1) st (.act (.callFn f)) =
    andThen (framed (.fn f) .fnContract st (fun st => runSpec p n st (.pres f 0 d.pre))) fun st1 =>
      andThen (framed (.fn f) .fnBody st1
          (fun st => runSpec p n (st.emit (.body f)) (.script d.body))) fun st2 =>
        framed (.fn f) .fnContract st2 (fun st => runSpec p n st (.posts f 0 d.post)) := by
  rw [runSpec, h]
  refine (if_neg (Bool.eq_false_iff.1 hc)).trans ?_
  rcases framed (.fn f) .fnContract st (fun st => runSpec p n st (.pres f 0 d.pre)) with ⟨s1, o1⟩
  cases o1 with
  | ok =>
    simp only [andThen_mk_ok]
    rcases framed (.fn f) .fnBody s1 (fun st => runSpec p n (st.emit (.body f)) (.script d.body)) with ⟨s2, o2⟩
    cases o2 <;> rfl
  | _ => rfl

theorem runSpec_callMethod_none {i m} (h : p.meth? i m = none) :
    runSpec p (n+1) st (.act (.callMethod i m)) = (st, .ok) := by
  unfold Program.meth? at h
  rw [runSpec, h]

theorem runSpec_callMethod_bare {i m c md} (h : p.meth? i m = some (c, md))
    (hc : (!md.guarded || st.instSuspended i) = true) :
    runSpec p (n+1) st (.act (.callMethod i m)) =
      runSpec p n (st.emit (.methBody i m)) (.script md.body) := by
  unfold Program.meth? at h
  rw [runSpec, h]
  exact if_pos hc

theorem runSpec_callMethod_checked {i m c md} (h : p.meth? i m = some (c, md))
    (hc : (!md.guarded || st.instSuspended i) = false) :
    runSpec p (n+1) st (.act (.callMethod i m)) =
    andThen (framed (.inst i) .invEval st (fun st => runSpec p n st (.invs i 0 c.invs))) fun st1 =>
      andThen (framed (.inst i) .method st1
          (fun st => runSpec p n (st.emit (.methBody i m)) (.script md.body))) fun st2 =>
        framed (.inst i) .invEval st2 (fun st => runSpec p n st (.invs i 0 c.invs)) := by
  unfold Program.meth? at h
  rw [runSpec, h]
  refine (if_neg (Bool.eq_false_iff.1 hc)).trans ?_
  rcases framed (.inst i) .invEval st (fun st => runSpec p n st (.invs i 0 c.invs)) with ⟨s1, o1⟩
  cases o1 with
  | ok =>
    simp only [andThen_mk_ok]
    rcases framed (.inst i) .method s1 (fun st => runSpec p n (st.emit (.methBody i m)) (.script md.body)) with ⟨s2, o2⟩
    cases o2 <;> rfl
  | _ => rfl

theorem runSpec_construct (i) :
    runSpec p (n+1) st (.act (.construct i)) = runSpec p n st (.act (.superInit i (p.clsOf i))) := rfl

theorem runSpec_superInit_none {i cid} (h : p.cls? cid = none) :
    runSpec p (n+1) st (.act (.superInit i cid)) = (st, .ok) := by
  rw [runSpec, h]

theorem runSpec_superInit_bare {i cid c} (h : p.cls? cid = some c)
    (hc : st.instSuspended i = true) :
    runSpec p (n+1) st (.act (.superInit i cid)) =
      runSpec p n (st.emit (.initBody i cid)) (.script c.init) := by
  rw [runSpec, h]
  exact if_pos hc

theorem runSpec_superInit_checked {i cid c} (h : p.cls? cid = some c)
    (hc : st.instSuspended i = false) :
    runSpec p (n+1) st (.act (.superInit i cid)) =
    andThen (framed (.inst i) .ctor st
        (fun st => runSpec p n (st.emit (.initBody i cid)) (.script c.init))) fun st1 =>
      framed (.inst i) .invEval st1
        (fun st => runSpec p n st (.invs i 0 (((p.cls? (p.clsOf i)).map (·.invs)).getD []))) := by
  rw [runSpec, h]
  refine (if_neg (Bool.eq_false_iff.1 hc)).trans ?_
  dsimp only
  rcases framed (.inst i) .ctor st (fun st => runSpec p n (st.emit (.initBody i cid)) (.script c.init)) with ⟨s1, o1⟩
  cases o1 <;> rfl

end runSpec

/-- `mk` is `.pres f`, `.posts f` or `.invs i`: both evaluators treat the three lists alike, `ev k` being
the event and `viol k` the violation of the `k`-th condition -/
inductive IsConds : (Nat → List Script → Cmd) → (Nat → Ev) → (Nat → Out) → Prop
  | pres (f : FnId) : IsConds (.pres f) (.cond f) (.violPre f)
  | posts (f : FnId) : IsConds (.posts f) (.post f) (.violPost f)
  | invs (i : InstId) : IsConds (.invs i) (.inv i) (.violInv i)

theorem Cmd.conds_cases {motive : Cmd → Prop} (cmd : Cmd)
    (script : ∀ s, motive (.script s)) (acts : ∀ as, motive (.acts as))
    (conds : ∀ {mk ev viol}, IsConds mk ev viol → ∀ k cs, motive (mk k cs))
    (act : ∀ a, motive (.act a)) : motive cmd := by
  cases cmd with
  | script s => exact script s
  | acts as => exact acts as
  | pres f k cs => exact conds (.pres f) k cs
  | posts f k cs => exact conds (.posts f) k cs
  | invs i k cs => exact conds (.invs i) k cs
  | act a => exact act a

section conds
variable {mk : Nat → List Script → Cmd} {ev : Nat → Ev} {viol : Nat → Out} (h : IsConds mk ev viol)
  {p : Program} {n : Nat}
include h

theorem IsConds.viol_ne_timeout (k : Nat) : viol k ≠ .timeout := by
  cases h <;> nofun

theorem IsConds.run_nil {v : Variant} {st : St} (k : Nat) : run p v (n+1) st (mk k []) = (st, .ok) := by
  cases h <;> rfl

theorem IsConds.run_cons {v : Variant} {st : St} (k c cs) : run p v (n+1) st (mk k (c :: cs)) =
    andThen (run p v n (st.emit (ev k)) (.script c))
      (fun st' => if c.truthy then run p v n st' (mk (k + 1) cs) else (st', viol k)) := by
  cases h with
  | pres f => exact run_pres_cons ..
  | posts f => exact run_posts_cons ..
  | invs i => exact run_invs_cons ..

theorem IsConds.runSpec_nil {st : SSt} (k : Nat) : runSpec p (n+1) st (mk k []) = (st, .ok) := by
  cases h <;> rfl

theorem IsConds.runSpec_cons {st : SSt} (k c cs) : runSpec p (n+1) st (mk k (c :: cs)) =
    andThen (runSpec p n (st.emit (ev k)) (.script c))
      (fun st' => if c.truthy then runSpec p n st' (mk (k + 1) cs) else (st', viol k)) := by
  cases h with
  | pres f => exact runSpec_pres_cons ..
  | posts f => exact runSpec_posts_cons ..
  | invs i => exact runSpec_invs_cons ..

end conds

end Icontract.Re
