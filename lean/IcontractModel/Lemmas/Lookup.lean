/-
  Name resolution: the visitor's table built from the look-ups (arguments, closure, globals) gives every name the
  value of the FIRST look-up that has it, and binds every name to a real value (it is the table of its own (name,
  value) pairs). `lookup` and `lookupT` are `List.find?` on the name, so the library's lemmas about `find?` apply.
-/
import IcontractModel.Recompute
import IcontractModel.Spec.PyEval
namespace Icontract.Ex

theorem lookup_eq_find? (l : List (String × Val)) (n : String) :
    lookup l n = (l.find? (fun p => p.1 == n)).map (·.2) := by
  induction l with
  | nil => rfl
  | cons p l ih =>
    unfold lookup
    rw [List.find?_cons]
    cases p.1 == n with
    | true => rfl
    | false => exact ih

theorem lookupT_eq_find? (t : Tbl) (n : String) : lookupT t n = (t.find? (fun p => p.1 == n)).map (·.2) := by
  induction t with
  | nil => rfl
  | cons p t ih =>
    unfold lookupT
    rw [List.find?_cons]
    cases p.1 == n with
    | true => rfl
    | false => exact ih

theorem lookup_append (a b : List (String × Val)) (n : String) : lookup (a ++ b) n = (lookup a n).or (lookup b n) := by
  simp only [lookup_eq_find?, List.find?_append, Option.map_or]

theorem lookup_pyScope (ls : List (List (String × Val))) (n : String) :
    lookup (pyScope ls) n = ls.findSome? (fun l => lookup l n) := by
  simp only [lookup_eq_find?, pyScope, List.find?_flatten, List.map_findSome?]
  rfl

theorem lookupT_ofNames (names : List (String × Val)) (n : String) :
    lookupT (Tbl.ofNames names) n = (lookup names n).map some := by
  simp only [lookupT_eq_find?, lookup_eq_find?, Tbl.ofNames, List.find?_map, Option.map_map]
  rfl

theorem hasPlaceholder_ofNames (names : List (String × Val)) : (Tbl.ofNames names).hasPlaceholder = false := by
  simp [Tbl.hasPlaceholder, Tbl.ofNames]

theorem values_ofNames (names : List (String × Val)) : (Tbl.ofNames names).values = names :=
  (List.filterMap_map ..).trans List.filterMap_some

theorem lookupT_insertIfAbsent (t : Tbl) (k : String) (v : Val) (n : String) :
    lookupT (t.insertIfAbsent k v) n = (lookupT t n).or (if k == n then some (some v) else none) := by
  unfold Tbl.insertIfAbsent
  split
  · next h =>
    split
    · next hk => rw [← eq_of_beq hk, Option.or_of_isSome h]
    · rw [Option.or_none]
  · simp only [lookupT_eq_find?, List.find?_append, Option.map_or, List.find?_singleton]
    cases k == n <;> rfl

theorem lookupT_addLookup (l : List (String × Val)) (t : Tbl) (n : String) :
    lookupT (t.addLookup l) n = (lookupT t n).or ((lookup l n).map some) := by
  induction l generalizing t with
  | nil => exact Option.or_none.symm
  | cons p l ih =>
    obtain ⟨k, v⟩ := p
    show lookupT ((t.insertIfAbsent k v).addLookup l) n =
      (lookupT t n).or ((if k == n then some v else lookup l n).map some)
    rw [ih, lookupT_insertIfAbsent, Option.or_assoc]
    cases k == n <;> rfl

theorem Tbl.ofLookups_eq (ls : List (List (String × Val))) : Tbl.ofLookups ls = Tbl.addLookup [] (pyScope ls) :=
  List.foldl_flatten.symm

theorem ofNames_values_insertIfAbsent {t : Tbl} (h : Tbl.ofNames t.values = t) {k : String} {v : Val} :
    Tbl.ofNames (t.insertIfAbsent k v).values = t.insertIfAbsent k v := by
  unfold Tbl.insertIfAbsent
  split
  · exact h
  · simp only [Tbl.values, Tbl.ofNames, List.filterMap_append, List.map_append] at h ⊢
    rw [h]
    rfl

theorem ofNames_values_ofLookups (ls : List (List (String × Val))) :
    Tbl.ofNames (Tbl.ofLookups ls).values = Tbl.ofLookups ls :=
  Tbl.ofLookups_eq ls ▸ List.foldlRecOn (pyScope ls) _ (motive := fun t => Tbl.ofNames t.values = t) rfl
    (fun _ ht _ _ => ofNames_values_insertIfAbsent ht)

end Icontract.Ex
