/-
  Separation lemmas for the metaclass model (`Meta.lean`): when no two functions share a list cell
  (`Separated`, `CheckersWf` of Spec/Override.lean), a late in-place decoration is local, and every
  step of a class statement keeps the functions separated.
-/
import IcontractModel.Lemmas.MetaClass
namespace Icontract.Meta

theorem observe_eq_of_sep {w w' : World} {f g : FnId} {ckf : CheckerObj} (hsep : Separated w) (hfg : f ≠ g)
    (hf : w.checker? f = some ckf) {x : Ref} (hx : x ∈ cellsOf w ckf) (hc : w'.checker? g = w.checker? g)
    (hh : ∀ ckg, w.checker? g = some ckg → ∀ r ∈ cellsOf w ckg, r ≠ x → w'.heap.get r = w.heap.get r) :
    preOf w' g = preOf w g ∧ postsOf w' g = postsOf w g ∧ snapsOf w' g = snapsOf w g :=
  observe_eq_of_cells hc
    (fun ckg hg r hr => hh ckg hg r hr (fun e => hsep f g ckf ckg hfg hf hg x hx (e ▸ hr)))

theorem addPre_local {w : World} {f g : FnId} (c : CId) (hfg : f ≠ g)
    (hsep : Separated w) (hwf : CheckersWf w) {ckf : CheckerObj} (hf : w.checker? f = some ckf) :
    preOf (addPre w f c) g = preOf w g ∧ postsOf (addPre w f c) g = postsOf w g ∧
      snapsOf (addPre w f c) g = snapsOf w g := by
  rw [addPre_of_checker c hf]
  split
  · exact observe_eq_of_sep hsep hfg hf (mem_cellsOf_pre w ckf) rfl (fun ckg hg r hr hne =>
      (Heap.get_append_ne hne).trans (Heap.get_alloc_lt ((hwf.2 g ckg hg).2 r hr)))
  · next g0 rest hcons =>
    exact observe_eq_of_sep hsep hfg hf (mem_cellsOf_group w ckf g0 (by rw [hcons]; exact List.mem_cons_self))
      rfl (fun _ _ r _ hne => Heap.get_append_ne hne)

theorem addPost_local {w : World} {f g : FnId} (c : CId) (hfg : f ≠ g)
    (hsep : Separated w) {ckf : CheckerObj} (hf : w.checker? f = some ckf) :
    preOf (addPost w f c) g = preOf w g ∧ postsOf (addPost w f c) g = postsOf w g ∧
      snapsOf (addPost w f c) g = snapsOf w g := by
  rw [addPost_of_checker c hf]
  exact observe_eq_of_sep hsep hfg hf (mem_cellsOf_posts w ckf) rfl
    (fun _ _ r _ hne => Heap.get_append_ne hne)

/-- `Separated w ∧ CheckersWf w`, the two hypotheses that travel together, with names for the parts -/
structure SepWf (w : World) : Prop where
  sep : Separated w
  keys : (w.checkers.map (·.1)).Nodup
  cells : ∀ f ck, w.checker? f = some ck → (cellsOf w ck).Nodup ∧ ∀ r ∈ cellsOf w ck, r < w.heap.length

theorem sepWf_iff {w : World} : SepWf w ↔ Separated w ∧ CheckersWf w :=
  ⟨fun h => ⟨h.sep, h.keys, h.cells⟩, fun h => ⟨h.1, h.2.1, h.2.2⟩⟩

theorem SepWf.of_same {w w' : World} (hh : HPres w.heap w'.heap) (hc : w'.checkers = w.checkers)
    (h : SepWf w) : SepWf w' := by
  have hck := checker?_of_checkers hc
  have hcells : ∀ f ck, w.checker? f = some ck → cellsOf w' ck = cellsOf w ck := fun f ck hf =>
    cellsOf_hpres hh ((h.cells f ck hf).2 _ (mem_cellsOf_pre w ck))
  refine ⟨?_, ?_, ?_⟩
  · intro f g ckf ckg hfg hf hg r hr
    rw [hck] at hf hg
    rw [hcells f ckf hf] at hr
    rw [hcells g ckg hg]
    exact h.sep f g ckf ckg hfg hf hg r hr
  · rw [hc]; exact h.keys
  · intro f ck hf
    rw [hck] at hf
    rw [hcells f ck hf]
    exact ⟨(h.cells f ck hf).1, fun r hr => Nat.lt_of_lt_of_le ((h.cells f ck hf).2 r hr) hh.2⟩

/-- the checker of one function `f` is (re-)bound to cells that nobody else owns -/
theorem SepWf.update {w w' : World} {f : FnId} {new : CheckerObj}
    (hh : HPres w.heap w'.heap)
    (hkeys : (w'.checkers.map (·.1)).Nodup)
    (hf : w'.checker? f = some new)
    (hg : ∀ g, g ≠ f → w'.checker? g = w.checker? g)
    (hnodup : (cellsOf w' new).Nodup)
    (hlt : ∀ r ∈ cellsOf w' new, r < w'.heap.length)
    (hnew : ∀ r ∈ cellsOf w' new, ∀ g ckg, g ≠ f → w.checker? g = some ckg → r ∉ cellsOf w ckg)
    (h : SepWf w) : SepWf w' := by
  have old : ∀ g ck, g ≠ f → w'.checker? g = some ck →
      w.checker? g = some ck ∧ cellsOf w' ck = cellsOf w ck := by
    intro g ck hgf hgk
    rw [hg g hgf] at hgk
    exact ⟨hgk, cellsOf_hpres hh ((h.cells g ck hgk).2 _ (mem_cellsOf_pre w ck))⟩
  refine ⟨?_, hkeys, ?_⟩
  · intro f1 f2 ck1 ck2 hne h1 h2 r hr
    by_cases e1 : f1 = f
    · subst e1
      cases hf.symm.trans h1
      obtain ⟨h2, c2⟩ := old f2 ck2 (fun e => hne e.symm) h2
      rw [c2]
      exact hnew r hr f2 ck2 (fun e => hne e.symm) h2
    · obtain ⟨h1, c1⟩ := old f1 ck1 e1 h1
      rw [c1] at hr
      by_cases e2 : f2 = f
      · subst e2
        cases hf.symm.trans h2
        exact fun hr' => hnew r hr' f1 ck1 e1 h1 hr
      · obtain ⟨h2, c2⟩ := old f2 ck2 e2 h2
        rw [c2]
        exact h.sep f1 f2 ck1 ck2 hne h1 h2 r hr
  · intro f1 ck1 h1
    by_cases e1 : f1 = f
    · subst e1
      cases hf.symm.trans h1
      exact ⟨hnodup, hlt⟩
    · obtain ⟨h1, c1⟩ := old f1 ck1 e1 h1
      rw [c1]
      exact ⟨(h.cells f1 ck1 h1).1, fun r hr => Nat.lt_of_lt_of_le ((h.cells f1 ck1 h1).2 r hr) hh.2⟩

theorem decorateOne_sepWf {w w' : World} {key : String} {f : FnId} {inh : Bool}
    {base : Bool × List Nat × List Nat × List Nat}
    (hd : decorateOne w key f inh base = .ok w') (h : SepWf w) : SepWf w' := by
  obtain ⟨hv, bPre, bSnaps, bPosts⟩ := base
  rcases decorateOne_cases hd with rfl | ⟨N, c⟩
  · exact h
  · -- `f`'s new cells are `N`, `N + 1`, `N + 2` and, as groups, the fresh copies `[len, len + |bPre|)` followed by the
    -- groups `f` had.  A cell `≥ len` is nobody's in `w` (`hge`); the old groups are `f`'s alone by `Separated`
    -- (`hown`); every group lies below `N` (`hgroups`): so the cells are distinct, in the heap and nobody else's
    have hge : ∀ r, w.heap.length ≤ r → ∀ g ckg, g ≠ f → w.checker? g = some ckg → r ∉ cellsOf w ckg :=
      fun r hr g ckg _ hgk hm => Nat.lt_irrefl _ (Nat.lt_of_lt_of_le ((h.cells g ckg hgk).2 r hm) hr)
    have hown : (ownPre w f).Nodup ∧ ∀ r ∈ ownPre w f, r < w.heap.length ∧
        ∀ g ckg, g ≠ f → w.checker? g = some ckg → r ∉ cellsOf w ckg := by
      simp only [ownPre]
      split
      · next ck hck0 =>
        refine ⟨(List.nodup_append.mp (h.cells f ck hck0).1).2.1, fun r hr => ?_⟩
        exact ⟨(h.cells f ck hck0).2 r (mem_cellsOf_group w ck r hr), fun g ckg hg hgk =>
          h.sep f g ck ckg (fun e => hg e.symm) hck0 hgk r (mem_cellsOf_group w ck r hr)⟩
      · exact ⟨List.nodup_nil, fun _ hr => nomatch hr⟩
    have hL : w.heap.length ≤ N := Nat.le_trans (Nat.le_add_right _ _) c.base
    have hgroups : ∀ r ∈ List.range' w.heap.length bPre.length ++ ownPre w f, r < N ∧
        ∀ g ckg, g ≠ f → w.checker? g = some ckg → r ∉ cellsOf w ckg := by
      intro r hr
      rcases List.mem_append.mp hr with hr | hr
      · rw [List.mem_range'_1] at hr
        exact ⟨Nat.lt_of_lt_of_le hr.2 c.base, hge r hr.1⟩
      · exact ⟨Nat.lt_of_lt_of_le (hown.2 r hr).1 hL, (hown.2 r hr).2⟩
    refine SepWf.update c.frame.heap (c.keys h.keys) c.checker c.frame.checkers ?_ ?_ ?_ h
    · simp only [cellsOf, c.preCell]
      exact nodup_range'_append N 3 (nodup_range'_append _ _ hown.1 (fun r hr => (hown.2 r hr).1))
        (fun r hr => (hgroups r hr).1)
    · rw [forall_mem_cellsOf, c.preCell, c.len]
      exact ⟨Nat.lt_add_of_pos_right (by decide), Nat.add_lt_add_left (by decide) N, Nat.lt_succ_self _,
        fun g hg => Nat.lt_add_right 3 (hgroups g hg).1⟩
    · rw [forall_mem_cellsOf, c.preCell]
      exact ⟨hge N hL, hge (N + 1) (Nat.le_succ_of_le hL), hge (N + 2) (Nat.le_add_right_of_le hL),
        fun g hg => (hgroups g hg).2⟩

theorem defineClass_sepWf {w w' : World} {k : ClsId} {bases : List ClsId} {ns : List (String × Member)}
    {dbc hook : Bool} (hd : defineClass w k bases ns dbc hook = .ok w') (h : SepWf w) : SepWf w' := by
  cases dbc with
  | false =>
    obtain ⟨cnew, _, rfl⟩ := defineClass_plain hd
    exact h.of_same (HPres.refl w.heap) rfl
  | true =>
    obtain ⟨w2, mro, h2, _, rfl⟩ := defineClass_ok hd
    have hs2 : SepWf w2 := nsPass_ind (fun _ hd hq => decorateOne_sepWf hd hq) h2
      (h.of_same (col3_frame w bases).1.heap (col3_frame w bases).2)
    rcases finishCls_cases (withCls w2 _ hook) k with e | e <;> rw [e]
    · exact hs2.of_same (HPres.refl w2.heap) rfl
    · exact hs2.of_same (by rw [addInvariantChecks_heap]; exact HPres.refl _)
        (by rw [addInvariantChecks_checkers]; rfl)

end Icontract.Meta
