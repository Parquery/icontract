/-
  Where the captures stand in the log of the skeleton `checkedG` (`Props/C08.lean`), and what it does once
  the call has reached the body (`Props/C02.lean`, `C14`).
-/
import IcontractModel.Lemmas.Instances
namespace Icontract
open Res

section
variable {h : Hooks} {isAsync : Bool} (ok : HooksOK h isAsync) {ck : Checker} {call : Call}
include ok

theorem checkedG_split :
    ∃ tpre tcap trest, (checkedG h ck call).trace = tpre ++ tcap ++ trest ∧
      (∀ e ∈ tpre, e.isCheck = true) ∧ (∀ e ∈ tcap, e.isCapture = true) ∧
      (∀ e ∈ trest, e.isCapture = false) ∧
      ((!ck.posts.isEmpty && !ck.snaps.isEmpty) = false → tcap = []) := by
  obtain ⟨t1, t2, t3, t4, ht, a1, ⟨a2, n2⟩, a3, a4, -⟩ := checkedG_phases h ck call
    (P1 := fun t => ∀ e ∈ t, e.isCheck = true)
    (P2 := fun t => (∀ e ∈ t, e.isCapture = true) ∧ ((!ck.posts.isEmpty && !ck.snaps.isEmpty) = false → t = []))
    (P3 := fun t => ∀ e ∈ t, e.isCapture = false) (P4 := fun t => ∀ e ∈ t, e.isCapture = false)
    (List.forall_mem_nil _) ⟨List.forall_mem_nil _, fun _ => rfl⟩ (List.forall_mem_nil _) (List.forall_mem_nil _)
    (prePhaseG_checkOnly ok) ⟨capPhaseG_captureOnly ok, capPhaseG_trace_nil⟩
    (by rw [runBody_eq]; intro e he; cases List.mem_singleton.mp he; rfl)
    fun kw r e he => Event.isCheck_not_capture (postPhaseG_checkOnly ok e he)
  exact ⟨t1, t2, t3 ++ t4, ht.trans (List.append_assoc _ _ _), a1, a2,
    fun e he => (List.mem_append.mp he).elim (a3 e) (a4 e), n2⟩

theorem checkedG_no_capture (hn : ck.posts = [] ∨ ck.snaps = []) :
    ¬ captured (checkedG h ck call).trace := by
  have hc : (!ck.posts.isEmpty && !ck.snaps.isEmpty) = false := by
    rcases hn with hn | hn <;> simp [hn]
  obtain ⟨tpre, tcap, trest, ht, hpre, _, hrest, hnil⟩ := checkedG_split ok
  rw [ht, hnil hc]
  rintro ⟨e, he, hcap⟩
  simp only [List.append_nil, List.mem_append] at he
  rcases he with he | he
  · rw [Event.isCheck_not_capture (hpre e he)] at hcap; cases hcap
  · rw [hrest e he] at hcap; cases hcap

theorem checkedG_between :
    ∃ tpre tcap trest, (checkedG h ck call).trace = tpre ++ tcap ++ trest ∧
      (∀ e ∈ tpre, e.isCheck = true) ∧ (∀ e ∈ tcap, e.isCapture = true) ∧
      (∀ e ∈ trest, e.isCapture = false) ∧
      (∀ e ∈ trest, e.isBody = true → ∀ e' ∈ tpre ++ tcap, e'.isBody = false) := by
  obtain ⟨tpre, tcap, trest, ht, hpre, hcap, hrest, _⟩ := checkedG_split ok
  refine ⟨tpre, tcap, trest, ht, hpre, hcap, hrest, fun _ _ _ e' he' => ?_⟩
  rcases List.mem_append.mp he' with he' | he'
  · exact Event.isCheck_not_body (hpre e' he')
  · exact Event.isCapture_not_body (hcap e' he')

theorem checkedG_return_only_if {v : Id} (hret : (checkedG h ck call).out = .ok v) :
    h.oracle.body = .ret v ∧
    ∃ old, cnfHolds isAsync h.oracle ((kwAtBody ck (resolved ck call) old).set "result" (.obj v)) ck.posts := by
  obtain ⟨old, ht⟩ := tailG_out_ok_of_checkedG hret
  rw [tailG_out_ok_iff, runBody_eq] at ht
  refine ⟨?_, old, ?_⟩
  · cases hb : h.oracle.body with
    | ret w => exact congrArg _ (Except.ok.inj (hb ▸ ht.1))
    | raises e => exact absurd (hb ▸ ht.1) (fun h' => by cases h')
  · exact fun c hc => (ok.post _ c).out_false.mp
      (checkGroupG_none_iff.mp (bind_errOf_out_none_iff.mp ht.2) c hc)

variable {old : List (String × Id)} (hr : ReachesBodyG h ck call old)
include hr

theorem checkedG_returns {v : Id} (hb : h.oracle.body = .ret v)
    (hall : cnfHolds isAsync h.oracle ((kwAtBody ck (resolved ck call) old).set "result" (.obj v)) ck.posts) :
    (checkedG h ck call).out = .ok v := by
  rw [(checkedG_reaches hr).1, tailG_out_ok_iff, runBody_eq, hb]
  exact ⟨rfl, bind_errOf_out_none_iff.mpr
    (checkGroupG_none_iff.mpr fun c hc => (ok.post _ c).out_false.mpr (hall c hc))⟩

theorem checkedG_post_violated {v : Id} (hb : h.oracle.body = .ret v)
    (htot : totalOn isAsync h.oracle ((kwAtBody ck (resolved ck call) old).set "result" (.obj v)) ck.posts)
    {c : Contract}
    (hc : firstFalsy isAsync h.oracle ((kwAtBody ck (resolved ck call) old).set "result" (.obj v)) ck.posts = some c)
    {err : Raised}
    (herr : (createViolationError h.oracle c ((kwAtBody ck (resolved ck call) old).set "result" (.obj v))).out
      = .ok err) :
    (checkedG h ck call).out = .error err := by
  rw [(checkedG_reaches hr).1]
  apply tailG_out_violated (by rw [runBody_eq, hb])
  have hdet := checkGroupG_det ck.posts fun c hc => (ok.post _ c).det (htot c hc)
  exact bind_errOf_out_some (hdet.trans (congrArg _ hc)) herr

omit ok in
theorem checkedG_body_error {e : Exc} (hb : h.oracle.body = .raises e) :
    (checkedG h ck call).out = .error (.user e) ∧
    (checkedG h ck call).trace.getLast? = some (.body call.args call.kwargs) := by
  obtain ⟨ho, ht⟩ := checkedG_reaches hr
  rw [tailG_of_raises hb] at ho ht
  exact ⟨ho, ht ▸ List.getLast?_concat⟩

theorem checkedG_transparent
    (hpost : ∀ v, h.oracle.body = .ret v →
      cnfHolds isAsync h.oracle ((kwAtBody ck (resolved ck call) old).set "result" (.obj v)) ck.posts) :
    Event.body call.args call.kwargs ∈ (checkedG h ck call).trace ∧
    (checkedG h ck call).out = (match h.oracle.body with | .ret v => .ok v | .raises e => .error (.user e)) := by
  refine ⟨checkedG_body_mem hr, ?_⟩
  cases hb : h.oracle.body with
  | ret v => exact checkedG_returns ok hr hb (hpost v hb)
  | raises e => exact (checkedG_body_error hr hb).1


end

end Icontract
