/-
  Every line assembled by `collectLines` comes from a recorded value.
-/
import IcontractModel.Represent
namespace Icontract.Ex

/-- every line in `m` is `(text i, x)` for some recorded `(i, x)` -/
def LinesFrom (text : Nat → String) (R : Log) (m : List (String × Val)) : Prop :=
  ∀ k x, (k, x) ∈ m → ∃ i, k = text i ∧ (i, x) ∈ R

theorem recorded_mem {R : Log} {i : Nat} {v : Val} (h : recorded R i = some v) : (i, v) ∈ R := by
  unfold recorded at h
  split at h
  · next p hp =>
    cases h
    rw [← eq_of_beq (List.find?_some (p := fun p : Nat × Val => p.1 == i) hp)]
    exact List.mem_reverse.mp (List.mem_of_find?_eq_some hp)
  · cases h

theorem LinesFrom.putLine {text : Nat → String} {R : Log} {m : List (String × Val)} {i : Nat} {v : Val}
    (hm : LinesFrom text R m) (hv : (i, v) ∈ R) : LinesFrom text R (putLine m (text i) v) := by
  intro k x hkx
  unfold Icontract.Ex.putLine at hkx
  by_cases hc : m.any (fun p => p.1 == text i) = true
  · rw [if_pos hc, List.mem_map] at hkx
    obtain ⟨q, hq, he⟩ := hkx
    split at he
    · cases he; exact ⟨i, rfl, hv⟩
    · subst he; exact hm _ _ hq
  · rw [if_neg hc, List.mem_append, List.mem_singleton] at hkx
    cases hkx with
    | inl h => exact hm _ _ h
    | inr h => cases h; exact ⟨i, rfl, hv⟩

/-- the conditional `reprs[text] = value` step -/
theorem LinesFrom.step {text : Nat → String} {R : Log} {m : List (String × Val)} (hm : LinesFrom text R m)
    (i : Nat) (c : Val → Bool) :
    LinesFrom text R (match recorded R i with
      | some v => if c v then Icontract.Ex.putLine m (text i) v else m
      | none => m) := by
  cases hr : recorded R i with
  | none => exact hm
  | some v =>
    dsimp only
    split
    · exact hm.putLine (recorded_mem hr)
    · exact hm

mutual
theorem collectLines_from (text : Nat → String) (isL : String → Bool) (R : Log) (e : Expr) (m : List (String × Val))
    (hm : LinesFrom text R m) : LinesFrom text R (collectLines text isL R m e) := by
  -- `unfold` in every case first: as noted in Lemmas/Reeval.lean
  cases e with
    unfold collectLines
  | const _ _ => exact hm
  | name i n => exact hm.step i (fun v => isL n && representable v)
  | attr i e _ => exact collectLines_from text isL R e _ (hm.step i representable)
  | subscr i e ix =>
      exact collectLines_from text isL R ix _ (collectLines_from text isL R e _ (hm.step i fun _ => true))
  | call i f args =>
      exact collectLinesList_from text isL R args _ (collectLines_from text isL R f _ (hm.step i fun _ => true))
  | unary _ _ e => exact collectLines_from text isL R e _ hm
  | bin _ _ l r => exact collectLines_from text isL R r _ (collectLines_from text isL R l _ hm)
  | boolop _ _ es => exact collectLinesList_from text isL R es _ hm
  | compare _ left rest => exact collectLinesCmp_from text isL R rest _ (collectLines_from text isL R left _ hm)
  | ifexp _ c t e =>
      exact collectLines_from text isL R e _ (collectLines_from text isL R t _ (collectLines_from text isL R c _ hm))
  | display _ es => exact collectLinesList_from text isL R es _ hm
  | comp i _ first inner =>
      exact collectLinesList_from text isL R inner _ (collectLines_from text isL R first _ (hm.step i fun _ => true))
  | starred _ e => exact collectLines_from text isL R e _ hm
  | coll _ _ es => exact collectLinesList_from text isL R es _ hm
  | dict _ items => exact collectLinesVals_from text isL R items _ (collectLinesKeys_from text isL R items _ hm)
  | slice _ lo hi step =>
      exact collectLinesOpt_from text isL R step _
        (collectLinesOpt_from text isL R hi _ (collectLinesOpt_from text isL R lo _ hm))
  | callkw i f args kws =>
      exact collectLinesKws_from text isL R kws _ (collectLinesList_from text isL R args _
        (collectLines_from text isL R f _ (hm.step i fun _ => true)))
  | fvalue _ e _ spec => exact collectLinesOpt_from text isL R spec _ (collectLines_from text isL R e _ hm)
  | fstring i _ => exact hm.step i representable
theorem collectLinesList_from (text : Nat → String) (isL : String → Bool) (R : Log) :
    ∀ (es : List Expr) (m : List (String × Val)), LinesFrom text R m →
      LinesFrom text R (collectLinesList text isL R m es)
  | [], _, hm => hm
  | e :: rest, _, hm => collectLinesList_from text isL R rest _ (collectLines_from text isL R e _ hm)
theorem collectLinesCmp_from (text : Nat → String) (isL : String → Bool) (R : Log) :
    ∀ (es : List (CmpOp × Expr)) (m : List (String × Val)), LinesFrom text R m →
      LinesFrom text R (collectLinesCmp text isL R m es)
  | [], _, hm => hm
  | (_, e) :: rest, _, hm => collectLinesCmp_from text isL R rest _ (collectLines_from text isL R e _ hm)
theorem collectLinesKeys_from (text : Nat → String) (isL : String → Bool) (R : Log) :
    ∀ (es : List (Option Expr × Expr)) (m : List (String × Val)), LinesFrom text R m →
      LinesFrom text R (collectLinesKeys text isL R m es)
  | [], _, hm => hm
  | (none, _) :: rest, _, hm => collectLinesKeys_from text isL R rest _ hm
  | (some k, _) :: rest, _, hm => collectLinesKeys_from text isL R rest _ (collectLines_from text isL R k _ hm)
theorem collectLinesVals_from (text : Nat → String) (isL : String → Bool) (R : Log) :
    ∀ (es : List (Option Expr × Expr)) (m : List (String × Val)), LinesFrom text R m →
      LinesFrom text R (collectLinesVals text isL R m es)
  | [], _, hm => hm
  | (_, e) :: rest, _, hm => collectLinesVals_from text isL R rest _ (collectLines_from text isL R e _ hm)
theorem collectLinesKws_from (text : Nat → String) (isL : String → Bool) (R : Log) :
    ∀ (es : List (Option String × Expr)) (m : List (String × Val)), LinesFrom text R m →
      LinesFrom text R (collectLinesKws text isL R m es)
  | [], _, hm => hm
  | (_, e) :: rest, _, hm => collectLinesKws_from text isL R rest _ (collectLines_from text isL R e _ hm)
theorem collectLinesOpt_from (text : Nat → String) (isL : String → Bool) (R : Log) :
    ∀ (o : Option Expr) (m : List (String × Val)), LinesFrom text R m →
      LinesFrom text R (collectLinesOpt text isL R m o)
  | none, _, hm => hm
  | some e, _, hm => collectLines_from text isL R e _ hm
end

end Icontract.Ex
