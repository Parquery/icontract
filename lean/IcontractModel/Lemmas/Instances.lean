/- `checkedSync` and `checkedAsync` are instances of the generic skeleton; the outer wrappers `callSync` / `callAsync`
   run them and leave the in-progress set (`IdSet`) as they found it. -/
import IcontractModel.Lemmas.GenericWrapper
import IcontractModel.Lemmas.Capture
namespace Icontract
open Res

def syncHooks (o : Oracle) : Hooks where
  evPre := evalPreSync o
  evPost := evalPostSync o
  capture := captureOldSync o
  oracle := o

def asyncHooks (o : Oracle) : Hooks where
  evPre := evalCondAsync o
  evPost := evalCondAsync o
  capture := captureOldAsync o
  oracle := o

/-- "the call reaches the body" for the sync wrapper -/
structure ReachesBodySync (ck : Checker) (o : Oracle) (call : Call) (old : List (String × Id)) : Prop where
  valid : assertResolvedKwargsValid (!ck.posts.isEmpty) (resolved ck call) = none
  pre : (assertPreSync o (resolved ck call) ck.pre).out = .ok none
  cap : (!ck.posts.isEmpty && !ck.snaps.isEmpty) = true →
        (captureOldSync o (resolved ck call) [] ck.snaps).out = .ok old

structure ReachesBodyAsync (ck : Checker) (o : Oracle) (call : Call) (old : List (String × Id)) : Prop where
  valid : assertResolvedKwargsValid (!ck.posts.isEmpty) (resolved ck call) = none
  pre : (assertPreAsync o (resolved ck call) ck.pre).out = .ok none
  cap : (!ck.posts.isEmpty && !ck.snaps.isEmpty) = true →
        (captureOldAsync o (resolved ck call) [] ck.snaps).out = .ok old

theorem checkGroupSync_eq (o : Oracle) (kw : Kwargs) (g : List Contract) :
    checkGroupSync o kw g = checkGroupG (evalPreSync o kw) g := by
  induction g with
  | nil => rfl
  | cons c cs ih => exact bind_congr' fun b => by cases b with | false => exact ih | true => rfl

theorem assertPreSyncAux_eq (o : Oracle) (kw : Kwargs) (gs : List (List Contract)) (last : Option Contract) :
    assertPreSyncAux o kw last gs = assertPreAuxG (evalPreSync o kw) last gs := by
  induction gs generalizing last with
  | nil => rfl
  | cons g gs ih =>
    rw [assertPreSyncAux, checkGroupSync_eq, assertPreAuxG_cons]
    exact bind_congr' fun r => by cases r with | none => rfl | some c => exact ih (some c)

theorem assertPreSync_eq (o : Oracle) (kw : Kwargs) (gs : List (List Contract)) :
    assertPreSync o kw gs =
      (assertPreAuxG (evalPreSync o kw) none gs >>= errOf fun c => createViolationError o c kw) := by
  simp only [assertPreSync, assertPreSyncAux_eq]
  rfl

theorem assertPostSync_eq (o : Oracle) (kw : Kwargs) (cs : List Contract) :
    assertPostSync o kw cs =
      (checkGroupG (evalPostSync o kw) cs >>= errOf fun c => createViolationError o c kw) := by
  induction cs with
  | nil => rfl
  | cons c cs ih =>
    rw [assertPostSync, checkGroupG_cons, bind_assoc']
    exact bind_congr' fun b => by cases b with | false => exact ih | true => rfl

theorem checkedSync_eq (ck : Checker) (o : Oracle) (call : Call) :
    checkedSync ck o call = checkedG (syncHooks o) ck call := by
  unfold checkedSync checkedG
  simp only [tailG_eq_ite, assertPreSync_eq, assertPostSync_eq]
  rfl

theorem checkGroupAsync_eq (o : Oracle) (kw : Kwargs) (g : List Contract) :
    checkGroupAsync o kw g = checkGroupG (evalCondAsync o kw) g := by
  induction g with
  | nil => rfl
  | cons c cs ih => exact bind_congr' fun b => by cases b with | false => exact ih | true => rfl

theorem assertPreAsyncAux_eq (o : Oracle) (kw : Kwargs) (gs : List (List Contract)) (last : Option Contract) :
    assertPreAsyncAux o kw last gs = assertPreAuxG (evalCondAsync o kw) last gs := by
  induction gs generalizing last with
  | nil => rfl
  | cons g gs ih =>
    rw [assertPreAsyncAux, checkGroupAsync_eq, assertPreAuxG_cons]
    exact bind_congr' fun r => by cases r with | none => rfl | some c => exact ih (some c)

theorem assertPreAsync_eq (o : Oracle) (kw : Kwargs) (gs : List (List Contract)) :
    assertPreAsync o kw gs =
      (assertPreAuxG (evalCondAsync o kw) none gs >>= errOf fun c => createViolationError o c kw) := by
  simp only [assertPreAsync, assertPreAsyncAux_eq]
  rfl

theorem assertPostAsync_eq (o : Oracle) (kw : Kwargs) (cs : List Contract) :
    assertPostAsync o kw cs =
      (checkGroupG (evalCondAsync o kw) cs >>= errOf fun c => createViolationError o c kw) := by
  induction cs with
  | nil => rfl
  | cons c cs ih =>
    rw [assertPostAsync, checkGroupG_cons, bind_assoc']
    exact bind_congr' fun b => by cases b with | false => exact ih | true => rfl

theorem checkedAsync_eq (ck : Checker) (o : Oracle) (call : Call) :
    checkedAsync ck o call = checkedG (asyncHooks o) ck call := by
  unfold checkedAsync checkedG
  simp only [tailG_eq_ite, assertPreAsync_eq, assertPostAsync_eq]
  rfl

theorem syncHooks_hooksOK (o : Oracle) : HooksOK (syncHooks o) false :=
  ⟨evalPreSync_evalOK o, evalPostSync_evalOK o, fun kw acc ss => (captureOldSync_spec o kw acc ss).captureOnly⟩

theorem asyncHooks_hooksOK (o : Oracle) : HooksOK (asyncHooks o) true :=
  ⟨evalCondAsync_evalOK o, evalCondAsync_evalOK o, fun kw acc ss => (captureOldAsync_spec o kw acc ss).captureOnly⟩

theorem ReachesBodySync.toG {ck : Checker} {o : Oracle} {call : Call} {old : List (String × Id)}
    (h : ReachesBodySync ck o call old) : ReachesBodyG (syncHooks o) ck call old :=
  ⟨h.valid, (congrArg Res.out (assertPreSync_eq ..)).symm.trans h.pre, h.cap⟩

theorem ReachesBodyAsync.toG {ck : Checker} {o : Oracle} {call : Call} {old : List (String × Id)}
    (h : ReachesBodyAsync ck o call old) : ReachesBodyG (asyncHooks o) ck call old :=
  ⟨h.valid, (congrArg Res.out (assertPreAsync_eq ..)).symm.trans h.pre, h.cap⟩

theorem IdSet.discard_add {s : IdSet} {i : Id} (h : s.contains i = false) :
    IdSet.discard (IdSet.add s i) i = s := by
  have hm : i ∉ s := fun hm => by rw [List.contains_iff_mem.mpr hm] at h; cases h
  unfold IdSet.add IdSet.discard
  rw [h, if_neg Bool.false_ne_true, List.filter_cons_of_neg (by simp)]
  exact List.filter_eq_self.mpr fun a ha => by simpa using fun (hai : a = i) => hm (hai ▸ ha)

theorem callSync_of_invalid {call : Call} {e : Raised} (hk : assertNoInvalidKwargs call.kwargs = some e)
    {ck : Checker} {o : Oracle} {s : IdSet} : callSync ck o s call = (Res.raise e, s) := by
  rw [callSync, hk]

theorem callAsync_of_invalid {call : Call} {e : Raised} (hk : assertNoInvalidKwargs call.kwargs = some e)
    {ck : Checker} {o : Oracle} {s : IdSet} : callAsync ck o s call = (Res.raise e, s) := by
  rw [callAsync, hk]

theorem callSync_of_inProgress {ck : Checker} {s : IdSet} {call : Call} (hk : assertNoInvalidKwargs call.kwargs = none)
    (hs : s.contains ck.fid = true) {o : Oracle} : callSync ck o s call = (runBody o call, s.discard ck.fid) := by
  rw [callSync, hk, if_pos hs]

theorem callAsync_of_inProgress {ck : Checker} {s : IdSet} {call : Call} (hk : assertNoInvalidKwargs call.kwargs = none)
    (hs : s.contains ck.fid = true) {o : Oracle} : callAsync ck o s call = (runBody o call, s.discard ck.fid) := by
  rw [callAsync, hk, if_pos hs]

theorem callSync_eq {ck : Checker} {o : Oracle} {s : IdSet} {call : Call}
    (hs : s.contains ck.fid = false) :
    callSync ck o s call =
      (match assertNoInvalidKwargs call.kwargs with
       | some e => Res.raise e
       | none => checkedSync ck o call, s) := by
  unfold callSync
  cases assertNoInvalidKwargs call.kwargs with
  | some e => rfl
  | none => simp only [hs, Bool.false_eq_true, if_false, IdSet.discard_add hs]

theorem callAsync_eq {ck : Checker} {o : Oracle} {s : IdSet} {call : Call}
    (hs : s.contains ck.fid = false) :
    callAsync ck o s call =
      (match assertNoInvalidKwargs call.kwargs with
       | some e => Res.raise e
       | none => checkedAsync ck o call, s) := by
  unfold callAsync
  cases assertNoInvalidKwargs call.kwargs with
  | some e => rfl
  | none => simp only [hs, Bool.false_eq_true, if_false, IdSet.discard_add hs]

end Icontract
