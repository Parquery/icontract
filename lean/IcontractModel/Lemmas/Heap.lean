/-
  Elementary facts about the heap of mutable lists of `Meta.lean`: a heap after allocations is `h ++ cells`
  (`Heap.get_app`), `set`/`append` write one cell, lengths only grow (`HPres`).
-/
import IcontractModel.Meta
import IcontractModel.Lemmas.ListLemmas
namespace Icontract.Meta

theorem Heap.get_app (h : Heap) (l : List (List Nat)) (i : Nat) :
    Heap.get (h ++ l) (h.length + i) = (l[i]?).getD [] := by
  simp [Heap.get, List.getElem?_append_right]

theorem Heap.get_app_lt {h : Heap} (l : List (List Nat)) {r : Nat} (hr : r < h.length) :
    Heap.get (h ++ l) r = Heap.get h r := by
  simp [Heap.get, List.getElem?_append_left hr]

/-- reading the cells of an appended block back, from its `k`-th on, gives the block from its `k`-th entry on -/
theorem Heap.map_get_app (h : Heap) (l : List (List Nat)) (k : Nat) :
    (List.range' (h.length + k) (l.length - k)).map (h ++ l).get = l.drop k := by
  apply List.ext_getElem (by simp)
  intro i _ h2
  simp only [List.length_drop] at h2
  simp only [List.getElem_map, List.getElem_range', Nat.one_mul, List.getElem_drop]
  rw [Nat.add_assoc, Heap.get_app, List.getElem?_eq_getElem (Nat.add_lt_of_lt_sub' h2), Option.getD_some]

theorem Heap.get_three (h : Heap) (a b c : List Nat) :
    (h ++ [a, b, c]).get h.length = a ∧ (h ++ [a, b, c]).get (h.length + 1) = b ∧
      (h ++ [a, b, c]).get (h.length + 2) = c :=
  ⟨Heap.get_app h [a, b, c] 0, Heap.get_app h [a, b, c] 1, Heap.get_app h [a, b, c] 2⟩

theorem Heap.alloc_snd (h : Heap) (xs : List Nat) : (h.alloc xs).2 = h.length := rfl

theorem Heap.length_alloc (h : Heap) (xs : List Nat) : (h.alloc xs).1.length = h.length + 1 :=
  List.length_append

theorem Heap.get_alloc_lt {h : Heap} {xs : List Nat} {r : Nat} (hr : r < h.length) :
    (h.alloc xs).1.get r = h.get r :=
  Heap.get_app_lt [xs] hr

theorem Heap.get_alloc_self (h : Heap) (xs : List Nat) : (h.alloc xs).1.get h.length = xs :=
  Heap.get_app h [xs] 0

theorem Heap.alloc3 (h : Heap) (a b c : List Nat) :
    (((h.alloc a).1.alloc b).1.alloc c).1 = h ++ [a, b, c] := by
  simp [Heap.alloc]

theorem Heap.set_eq (h : Heap) (r : Nat) (xs : List Nat) : Heap.set h r xs = List.set h r xs :=
  mapIdx_ite_eq_set h r xs

theorem Heap.length_set (h : Heap) (r : Nat) (xs : List Nat) : (h.set r xs).length = h.length := by
  rw [Heap.set_eq, List.length_set]

theorem Heap.get_set_ne {h : Heap} {r r' : Nat} {xs : List Nat} (hne : r' ≠ r) :
    (h.set r xs).get r' = h.get r' := by
  rw [Heap.get, Heap.set_eq, List.getElem?_set_ne hne.symm, Heap.get]

theorem Heap.get_set_self {h : Heap} {r : Nat} {xs : List Nat} (hr : r < h.length) :
    (h.set r xs).get r = xs := by
  rw [Heap.get, Heap.set_eq, List.getElem?_set_self hr, Option.getD_some]

theorem Heap.get_append_self {h : Heap} {r : Nat} (x : Nat) (hr : r < h.length) :
    (h.append r x).get r = h.get r ++ [x] := by
  simp only [Heap.append, Heap.get_set_self hr]

theorem Heap.length_append (h : Heap) (r : Nat) (x : Nat) : (h.append r x).length = h.length := by
  simp [Heap.append, Heap.length_set]

theorem Heap.get_append_ne {h : Heap} {r r' : Nat} {x : Nat} (hne : r' ≠ r) :
    (h.append r x).get r' = h.get r' := by
  simp [Heap.append, Heap.get_set_ne hne]

theorem Heap.append_app (h : Heap) (l : List (List Nat)) (i x : Nat) :
    Heap.append (h ++ l) (h.length + i) x = h ++ l.set i ((l[i]?).getD [] ++ [x]) := by
  rw [Heap.append, Heap.set_eq, Heap.get_app, List.set_append_right _ _ (Nat.le_add_right _ _),
    Nat.add_sub_cancel_left]

/-- cells below the old length are unchanged, and the heap did not shrink -/
def HPres (h h' : Heap) : Prop :=
  (∀ r < h.length, h'.get r = h.get r) ∧ h.length ≤ h'.length

theorem HPres.refl (h : Heap) : HPres h h := ⟨fun _ _ => rfl, Nat.le_refl _⟩

theorem HPres.trans {h1 h2 h3 : Heap} (a : HPres h1 h2) (b : HPres h2 h3) : HPres h1 h3 :=
  ⟨fun r hr => by rw [b.1 r (Nat.lt_of_lt_of_le hr a.2), a.1 r hr], Nat.le_trans a.2 b.2⟩

theorem HPres.app {h : Heap} {l : List (List Nat)} : HPres h (h ++ l) :=
  ⟨fun r hr => Heap.get_app_lt l hr, by simp⟩

theorem HPres.alloc (h : Heap) (xs : List Nat) : HPres h (h.alloc xs).1 :=
  HPres.app

theorem HPres.append_ge (h : Heap) (r : Nat) (x : Nat) (n : Nat) (hn : n ≤ r) (hl : n ≤ h.length) :
    (∀ r' < n, (h.append r x).get r' = h.get r') ∧ n ≤ (h.append r x).length :=
  ⟨fun r' hr' => Heap.get_append_ne (Nat.ne_of_lt (Nat.lt_of_lt_of_le hr' hn)), by rw [Heap.length_append]; exact hl⟩

end Icontract.Meta
