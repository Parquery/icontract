/-
  Reading a `Kwargs` back: `get?` after `set`, and after a whole list of assignments made in order
  (`Kwargs.setAll`), which is what each of the three passes of `kwargs_from_call` is; `has` and `restrict`
  in terms of `get?` and membership.  The specification's look-up `kwLookup`, in which the result is read:
  on a cons, a filtered list, a zip.
-/
import IcontractModel.Spec.PyBind
namespace Icontract

theorem Kwargs.get?_set_self {kw : Kwargs} {n : String} {v : Val} : (Kwargs.set kw n v).get? n = some v := by
  induction kw with
  | nil => simp [Kwargs.set, Kwargs.get?]
  | cons p rest ih =>
    obtain ⟨k, w⟩ := p
    unfold Kwargs.set
    by_cases hk : (k == n) = true
    · simp [hk, Kwargs.get?]
    · simp only [hk, Bool.false_eq_true, if_false, Kwargs.get?]
      exact ih

theorem Kwargs.get?_set_ne {kw : Kwargs} {n m : String} {v : Val} (hne : n ≠ m) :
    (Kwargs.set kw n v).get? m = Kwargs.get? kw m := by
  induction kw with
  | nil =>
    simp [Kwargs.set, Kwargs.get?, beq_false_of_ne hne]
  | cons p rest ih =>
    obtain ⟨k, w⟩ := p
    unfold Kwargs.set
    by_cases hk : (k == n) = true
    · simp [hk, Kwargs.get?, beq_false_of_ne (eq_of_beq hk ▸ hne)]
    · simp only [hk, Bool.false_eq_true, if_false, Kwargs.get?]
      rw [ih]

theorem Kwargs.has_eq_isSome (kw : Kwargs) (n : String) : kw.has n = (kw.get? n).isSome := by
  induction kw with
  | nil => rfl
  | cons p rest ih =>
    obtain ⟨k, w⟩ := p
    unfold Kwargs.has at ih ⊢
    by_cases hk : (k == n) = true
    · simp [Kwargs.get?, hk]
    · simp only [Bool.not_eq_true] at hk
      simp [Kwargs.get?, hk, ih]

theorem Kwargs.mem_restrict {kw : Kwargs} {names : List String} {p : String × Val} :
    p ∈ kw.restrict names ↔ p ∈ kw ∧ p.1 ∈ names := by
  unfold Kwargs.restrict
  rw [List.mem_filter, List.contains_iff_mem]

theorem kwLookup_cons_self {n : String} {v : Id} {l : List (String × Id)} :
    kwLookup ((n, v) :: l) n = some v := by
  rw [kwLookup, beq_self_eq_true, if_pos rfl]

theorem kwLookup_cons_ne {k n : String} (h : k ≠ n) {v : Id} {l : List (String × Id)} :
    kwLookup ((k, v) :: l) n = kwLookup l n := by
  rw [kwLookup, if_neg (mt eq_of_beq h)]

theorem kwLookup_of_not_mem {l : List (String × Id)} {n : String} (h : n ∉ l.map (·.1)) :
    kwLookup l n = none := by
  induction l with
  | nil => rfl
  | cons x rest ih =>
    rw [List.map_cons, List.mem_cons, not_or] at h
    exact (kwLookup_cons_ne (Ne.symm h.1)).trans (ih h.2)

theorem kwLookup_mem {kwargs : List (String × Id)} {n : String} {v : Id} (h : kwLookup kwargs n = some v) :
    (n, v) ∈ kwargs := by
  induction kwargs with
  | nil => cases h
  | cons x rest ih =>
    obtain ⟨k, w⟩ := x
    by_cases hk : k = n
    · subst hk
      rw [kwLookup_cons_self] at h
      cases h
      exact List.mem_cons_self
    · rw [kwLookup_cons_ne hk] at h
      exact List.mem_cons_of_mem _ (ih h)

theorem kwLookup_filter (posOnly : List String) (kwargs : List (String × Id)) (n : String) :
    kwLookup (kwargs.filter fun p => !posOnly.contains p.1) n =
      if posOnly.contains n then none else kwLookup kwargs n := by
  induction kwargs with
  | nil => exact (ite_self _).symm
  | cons x rest ih =>
    obtain ⟨k, v⟩ := x
    rw [List.filter_cons]
    by_cases hkn : k = n
    · subst hkn
      cases hc : posOnly.contains k with
      | true => exact ih.trans (by rw [hc]; rfl)
      | false => exact kwLookup_cons_self.trans kwLookup_cons_self.symm
    · rw [kwLookup_cons_ne hkn, ← ih]
      cases posOnly.contains k with
      | true => rfl
      | false => exact kwLookup_cons_ne hkn

theorem kwLookup_zip (names : List String) (args : List Id) (n : String) :
    kwLookup (names.zip args) n = if n ∈ names then args[names.idxOf n]? else none := by
  induction names generalizing args with
  | nil => rfl
  | cons p ps ih =>
    cases args with
    | nil => simp only [List.zip_nil_right, kwLookup, List.getElem?_nil, ite_self]
    | cons a as =>
      rw [List.zip_cons_cons]
      by_cases hpn : p = n
      · subst hpn
        rw [kwLookup_cons_self, if_pos List.mem_cons_self, List.idxOf_cons_self]
        rfl
      · rw [kwLookup_cons_ne hpn, ih, List.idxOf_cons, beq_false_of_ne hpn, cond_false, List.getElem?_cons_succ]
        simp only [List.mem_cons, Ne.symm hpn, false_or]

def Kwargs.setAll (kw : Kwargs) (l : List (String × Id)) : Kwargs :=
  l.foldl (fun kw p => kw.set p.1 (.obj p.2)) kw

theorem Kwargs.get?_setAll_of_not_mem {kw : Kwargs} {l : List (String × Id)} {n : String}
    (h : n ∉ l.map (·.1)) : (kw.setAll l).get? n = kw.get? n := by
  induction l generalizing kw with
  | nil => rfl
  | cons x rest ih =>
    rw [List.map_cons, List.mem_cons, not_or] at h
    exact (ih h.2).trans (Kwargs.get?_set_ne (Ne.symm h.1))

/-- `Nodup`: of two assignments to a key the last one stays, whereas `kwLookup` finds the first. -/
theorem Kwargs.get?_setAll {kw : Kwargs} {l : List (String × Id)} {n : String}
    (hnd : (l.map (·.1)).Nodup) :
    (kw.setAll l).get? n = ((kwLookup l n).map Val.obj).or (kw.get? n) := by
  induction l generalizing kw with
  | nil => rfl
  | cons x rest ih =>
    obtain ⟨k, v⟩ := x
    rw [List.map_cons, List.nodup_cons] at hnd
    by_cases hkn : k = n
    · subst hkn
      rw [kwLookup_cons_self]
      exact (Kwargs.get?_setAll_of_not_mem hnd.1).trans Kwargs.get?_set_self
    · rw [kwLookup_cons_ne hkn]
      exact (ih hnd.2).trans (by rw [Kwargs.get?_set_ne hkn])

end Icontract
