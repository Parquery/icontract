/- The precondition groups along an override chain (`chainPre`): which groups there are, and over an append. -/
import IcontractModel.Chain
namespace Icontract

theorem chainPre_append (ls ls' : List Level) : chainPre (ls ++ ls') = chainPre ls ++ chainPre ls' := by
  induction ls with
  | nil => rfl
  | cons a as ih => rw [List.cons_append, chainPre, chainPre, ih, List.append_assoc]

theorem chainPre_singleton (l : Level) : chainPre [l] = if l.pre.isEmpty then [] else [l.pre] :=
  List.append_nil _

theorem mem_chainPre (ls : List Level) (g : List Contract) :
    g ∈ chainPre ls ↔ ∃ l ∈ ls, l.pre ≠ [] ∧ g = l.pre := by
  induction ls with
  | nil => simp [chainPre]
  | cons l ls ih =>
    rw [chainPre, List.mem_append, ih]
    simp only [List.mem_cons, exists_eq_or_imp]
    refine or_congr ?_ Iff.rfl
    cases l.pre with
    | nil => simp
    | cons a b => simp

theorem chainPre_eq_nil (ls : List Level) : chainPre ls = [] ↔ ∀ l ∈ ls, l.pre = [] := by
  rw [List.eq_nil_iff_forall_not_mem]
  simp only [mem_chainPre, not_exists, not_and]
  exact ⟨fun h l hl => Decidable.by_contra fun hne => h _ l hl hne rfl,
    fun h g l hl hne _ => hne (h l hl)⟩

end Icontract
