/-
  The operations of the metaclass model (`Meta.lean`) on the heap and on the checkers of functions, each unfolded once -
  as an equation (`decorateOne_eq`), a closed form (`copyCells_spec`, `collectBases_eq`, `declWorld`) or an induction
  principle (`nsPass_ind`) - so that what it can change (`Frame`) and what introspection shows afterwards
  (`observe_eq_of_cells`) follow without unfolding it again.  The operations on classes are in Lemmas/MetaClass.lean.
-/
import IcontractModel.Lemmas.Heap
import IcontractModel.Spec.Override
namespace Icontract.Meta

def ownPre (w : World) (f : FnId) : List Nat :=
  match w.checker? f with | some ck => w.heap.get ck.pre | none => []
def ownSnaps (w : World) (f : FnId) : List Nat :=
  match w.checker? f with | some ck => w.heap.get ck.snaps | none => []
def ownPosts (w : World) (f : FnId) : List Nat :=
  match w.checker? f with | some ck => w.heap.get ck.posts | none => []

theorem preOf_eq (w : World) (f : FnId) : preOf w f = (ownPre w f).map w.heap.get := by
  unfold preOf ownPre
  cases w.checker? f <;> rfl

theorem snapsOf_eq (w : World) (f : FnId) : snapsOf w f = ownSnaps w f := rfl

theorem mem_cellsOf_pre (w : World) (ck : CheckerObj) : ck.pre ∈ cellsOf w ck :=
  List.mem_append_left _ List.mem_cons_self

theorem mem_cellsOf_snaps (w : World) (ck : CheckerObj) : ck.snaps ∈ cellsOf w ck :=
  List.mem_append_left _ (List.mem_cons_of_mem _ List.mem_cons_self)

theorem mem_cellsOf_posts (w : World) (ck : CheckerObj) : ck.posts ∈ cellsOf w ck :=
  List.mem_append_left _ (List.mem_cons_of_mem _ (List.mem_cons_of_mem _ List.mem_cons_self))

theorem mem_cellsOf_group (w : World) (ck : CheckerObj) (r : Ref) (h : r ∈ w.heap.get ck.pre) :
    r ∈ cellsOf w ck :=
  List.mem_append_right _ h

theorem forall_mem_cellsOf {w : World} {ck : CheckerObj} {P : Nat → Prop} :
    (∀ r ∈ cellsOf w ck, P r) ↔ P ck.pre ∧ P ck.snaps ∧ P ck.posts ∧ ∀ g ∈ w.heap.get ck.pre, P g := by
  simp only [cellsOf, List.cons_append, List.nil_append, List.forall_mem_cons]

theorem cellsOf_hpres {w w' : World} {ck : CheckerObj} (hh : HPres w.heap w'.heap)
    (hlt : ck.pre < w.heap.length) : cellsOf w' ck = cellsOf w ck := by
  simp only [cellsOf, hh.1 _ hlt]

theorem observe_eq_of_cells {w w' : World} {g : FnId} (hc : w'.checker? g = w.checker? g)
    (hcells : ∀ ck, w.checker? g = some ck → ∀ r ∈ cellsOf w ck, w'.heap.get r = w.heap.get r) :
    preOf w' g = preOf w g ∧ postsOf w' g = postsOf w g ∧ snapsOf w' g = snapsOf w g := by
  cases h : w.checker? g with
  | none => simp only [preOf, postsOf, snapsOf, hc, h, and_self]
  | some ck =>
    obtain ⟨hpre, hsnaps, hposts, hgroups⟩ := forall_mem_cellsOf.mp (hcells ck h)
    simp only [preOf, postsOf, snapsOf, hc, h, hpre, hsnaps, hposts, and_true]
    exact List.map_congr_left hgroups

/-- `w'` arises from `w` by allocating cells and re-binding checkers of functions in `S` only -/
structure Frame (S : FnId → Prop) (w w' : World) : Prop where
  heap : HPres w.heap w'.heap
  classes : w'.classes = w.classes
  hooks : w'.hookCalls = w.hookCalls
  checkers : ∀ f, ¬ S f → w'.checker? f = w.checker? f

theorem Frame.refl {S : FnId → Prop} {w : World} : Frame S w w :=
  ⟨HPres.refl _, rfl, rfl, fun _ _ => rfl⟩

theorem Frame.trans {S : FnId → Prop} {w1 w2 w3 : World} (a : Frame S w1 w2) (b : Frame S w2 w3) :
    Frame S w1 w3 :=
  ⟨a.heap.trans b.heap, b.classes.trans a.classes, b.hooks.trans a.hooks,
   fun f hf => (b.checkers f hf).trans (a.checkers f hf)⟩

theorem Frame.mono {S T : FnId → Prop} {w w' : World} (a : Frame S w w') (h : ∀ f, S f → T f) :
    Frame T w w' :=
  ⟨a.heap, a.classes, a.hooks, fun f hf => a.checkers f (fun hs => hf (h f hs))⟩

/-- a pass with one step per function: step `a` touches `fn a` only and takes `Pre a` to `Post a`; both survive the
steps on the other functions - frames that miss `fn a` and touch functions of the pass only (the first premise: so
`Pre` may carry what is known of the functions outside the pass) -/
theorem foldlM_frames {μ : Type} {fn : μ → FnId} {step : World → μ → Except DefErr World}
    {Pre Post : μ → World → Prop} : ∀ (ms : List μ),
    (∀ a ∈ ms, ∀ {S : FnId → Prop} {w w'}, (∀ f, S f → f ∈ ms.map fn) → ¬ S (fn a) → Frame S w w' →
      w'.snapNames = w.snapNames → (Pre a w → Pre a w') ∧ (Post a w → Post a w')) →
    (∀ a ∈ ms, ∀ {w w'}, Pre a w → step w a = .ok w' →
      Frame (· = fn a) w w' ∧ w'.snapNames = w.snapNames ∧ Post a w') →
    ∀ {w w'}, (ms.map fn).Nodup → (∀ a ∈ ms, Pre a w) → ms.foldlM step w = .ok w' →
      Frame (fun f => f ∈ ms.map fn) w w' ∧ w'.snapNames = w.snapNames ∧ ∀ a ∈ ms, Post a w' := by
  intro ms
  induction ms with
  | nil =>
    intro _ _ w w' _ _ h
    cases h
    exact ⟨Frame.refl, rfl, fun a ha => by cases ha⟩
  | cons p ms ih =>
    intro hst hstep w w' hnd hpre h
    rw [List.foldlM_cons] at h
    obtain ⟨w1, h1, h⟩ := Except.bind_eq_ok_iff.mp h
    simp only [List.map_cons, List.nodup_cons] at hnd
    obtain ⟨fr1, sn1, post1⟩ := hstep p List.mem_cons_self (hpre p List.mem_cons_self) h1
    obtain ⟨fr2, sn2, post2⟩ := ih
      (fun a ha _ _ _ hS => hst a (List.mem_cons_of_mem _ ha) (fun f hf => List.mem_cons_of_mem _ (hS f hf)))
      (fun a ha => hstep a (List.mem_cons_of_mem _ ha)) hnd.2
      (fun q hq => (hst q (List.mem_cons_of_mem _ hq) (S := (· = fn p)) (fun f hf => hf ▸ List.mem_cons_self)
        (fun e => hnd.1 (e ▸ List.mem_map.mpr ⟨q, hq, rfl⟩)) fr1 sn1).1 (hpre q (List.mem_cons_of_mem _ hq))) h
    refine ⟨(fr1.mono (fun f hf => by rw [hf]; exact List.mem_cons_self)).trans
      (fr2.mono (fun f hf => List.mem_cons_of_mem _ hf)), sn2.trans sn1, fun q hq => ?_⟩
    rcases List.mem_cons.mp hq with rfl | hq'
    · exact (hst q List.mem_cons_self (fun f hf => List.mem_cons_of_mem _ hf) hnd.1 fr2 sn2).2 post1
    · exact post2 q hq'

theorem find?_rebind (l : List (FnId × CheckerObj)) (f g : FnId) (new : CheckerObj) :
    (l.map (fun p => if p.1 == f then (f, new) else p)).find? (·.1 == g)
      = (l.find? (·.1 == g)).map (fun p => if p.1 == f then (f, new) else p) := by
  rw [List.find?_map]
  congr
  funext p
  simp only [Function.comp]
  split
  · next h => rw [← beq_iff_eq.mp h]
  · rfl

theorem find?_rebind_self {l : List (FnId × CheckerObj)} {f : FnId} {old : CheckerObj} (new : CheckerObj)
    (h : (l.find? (·.1 == f)).map (·.2) = some old) :
    ((l.map (fun p => if p.1 == f then (f, new) else p)).find? (·.1 == f)).map (·.2) = some new := by
  rw [find?_rebind]
  cases hp : l.find? (·.1 == f) with
  | none => rw [hp] at h; cases h
  | some p =>
    have : p.1 = f := by simpa using List.find?_some hp
    simp [this]

theorem find?_rebind_ne {l : List (FnId × CheckerObj)} {f f' : FnId} {new : CheckerObj} (h : f' ≠ f) :
    (l.map (fun p => if p.1 == f then (f, new) else p)).find? (·.1 == f')
      = l.find? (·.1 == f') := by
  rw [find?_rebind]
  cases hp : l.find? (·.1 == f') with
  | none => rfl
  | some p =>
    have : p.1 = f' := by simpa using List.find?_some hp
    simp [this, h]

theorem keys_rebind (l : List (FnId × CheckerObj)) (f : FnId) (new : CheckerObj) :
    (l.map (fun p => if p.1 == f then (f, new) else p)).map (·.1) = l.map (·.1) := by
  rw [List.map_map]
  apply List.map_congr_left
  intro p _
  simp only [Function.comp]
  split
  · next h => simpa using (beq_iff_eq.mp h).symm
  · rfl

theorem checker?_of_checkers {w w' : World} (h : w'.checkers = w.checkers) (f : FnId) :
    w'.checker? f = w.checker? f := by
  rw [World.checker?, h]; rfl

theorem checker?_none_iff (w : World) (f : FnId) :
    w.checker? f = none ↔ f ∉ w.checkers.map (·.1) := by
  simp only [World.checker?, Option.map_eq_none_iff, List.find?_eq_none, List.mem_map, not_exists, not_and,
    beq_iff_eq]

/-- the world after the decorators of a fresh function `f`: the three lists of its new
checker in three new cells, the outer precondition list holding the references of the group cells that follow them -/
def declWorld (w : World) (f : FnId) (gs : List (List Nat)) (ss ps : List Nat) : World :=
  { w with heap := w.heap ++ ([List.range' (w.heap.length + 3) gs.length, ss, ps] ++ gs),
           checkers := w.checkers ++ [(f, { pre := w.heap.length, snaps := w.heap.length + 1,
                                            posts := w.heap.length + 2 })] }

theorem declWorld_checker {w : World} {f : FnId} (gs : List (List Nat)) (ss ps : List Nat) (h : w.checker? f = none) :
    (declWorld w f gs ss ps).checker? f =
      some { pre := w.heap.length, snaps := w.heap.length + 1, posts := w.heap.length + 2 } := by
  have h' : w.checkers.find? (·.1 == f) = none := Option.map_eq_none_iff.mp h
  simp [World.checker?, declWorld, List.find?_append, h']

theorem declWorld_frame (w : World) (f : FnId) (gs : List (List Nat)) (ss ps : List Nat) :
    Frame (· = f) w (declWorld w f gs ss ps) :=
  ⟨HPres.app, rfl, rfl, fun f' hf' => by
    simp [World.checker?, declWorld, List.find?_append, beq_false_of_ne (Ne.symm hf')]⟩

theorem declWorld_get (w : World) (f : FnId) (gs : List (List Nat)) (ss ps : List Nat) :
    (declWorld w f gs ss ps).heap.get w.heap.length = List.range' (w.heap.length + 3) gs.length ∧
    (declWorld w f gs ss ps).heap.get (w.heap.length + 1) = ss ∧
    (declWorld w f gs ss ps).heap.get (w.heap.length + 2) = ps ∧
    (List.range' (w.heap.length + 3) gs.length).map (declWorld w f gs ss ps).heap.get = gs := by
  have g := Heap.get_app w.heap ([List.range' (w.heap.length + 3) gs.length, ss, ps] ++ gs)
  refine ⟨g 0, g 1, g 2, ?_⟩
  exact Heap.map_get_app w.heap ([List.range' (w.heap.length + 3) gs.length, ss, ps] ++ gs) 3

theorem ensureChecker_some {w : World} {f : FnId} {ck : CheckerObj} (h : w.checker? f = some ck) :
    ensureChecker w f = (w, ck) := by
  simp [ensureChecker, h]

theorem ensureChecker_none {w : World} {f : FnId} (h : w.checker? f = none) :
    ensureChecker w f =
      (declWorld w f [] [] [], { pre := w.heap.length, snaps := w.heap.length + 1, posts := w.heap.length + 2 }) := by
  simp [ensureChecker, h, Heap.alloc, declWorld]

theorem ensureChecker_frame (w : World) (f : FnId) : Frame (· = f) w (ensureChecker w f).1 := by
  cases h : w.checker? f with
  | some ck => rw [ensureChecker_some h]; exact Frame.refl
  | none => rw [ensureChecker_none h]; exact declWorld_frame w f [] [] []

theorem ensureChecker_checker (w : World) (f : FnId) :
    (ensureChecker w f).1.checker? f = some (ensureChecker w f).2 := by
  cases h : w.checker? f with
  | some ck => rw [ensureChecker_some h]; exact h
  | none =>
    rw [ensureChecker_none h]
    exact declWorld_checker [] [] [] h

theorem ensureChecker_snapNames_keys (w : World) (f : FnId) :
    (ensureChecker w f).1.snapNames = w.snapNames ∧
    ((w.checkers.map (·.1)).Nodup → ((ensureChecker w f).1.checkers.map (·.1)).Nodup) := by
  cases h : w.checker? f with
  | some ck => rw [ensureChecker_some h]; exact ⟨rfl, id⟩
  | none =>
    rw [ensureChecker_none h]
    refine ⟨rfl, fun hnd => ?_⟩
    simp only [declWorld, List.map_append, List.map_cons, List.map_nil]
    rw [List.nodup_append]
    refine ⟨hnd, List.nodup_cons.mpr ⟨List.not_mem_nil, List.nodup_nil⟩, ?_⟩
    intro a ha b hb e
    rw [List.mem_singleton.mp hb] at e
    exact (checker?_none_iff w f).mp h (e ▸ ha)

theorem addPost_of_checker {w : World} {f : FnId} {ck : CheckerObj} (c : CId) (h : w.checker? f = some ck) :
    addPost w f c = { w with heap := w.heap.append ck.posts c } := by
  simp only [addPost, ensureChecker_some h]

theorem addPre_of_checker {w : World} {f : FnId} {ck : CheckerObj} (c : CId) (h : w.checker? f = some ck) :
    addPre w f c = match w.heap.get ck.pre with
      | [] => { w with heap := (w.heap ++ [[c]]).append ck.pre w.heap.length }
      | g :: _ => { w with heap := w.heap.append g c } := by
  simp only [addPre, ensureChecker_some h]
  rfl

theorem addSnap_none {w : World} {f : FnId} (s : Nat) (h : w.checker? f = none) :
    addSnap w f s = .error .valueErrorNoChecker := by
  simp only [addSnap, h]

theorem addPost_declWorld {w : World} {f : FnId} {gs : List (List Nat)} {ss ps : List Nat} {c : CId}
    (h : w.checker? f = none) : addPost (declWorld w f gs ss ps) f c = declWorld w f gs ss (ps ++ [c]) := by
  rw [addPost_of_checker c (declWorld_checker gs ss ps h)]
  have := Heap.append_app w.heap ([List.range' (w.heap.length + 3) gs.length, ss, ps] ++ gs) 2 c
  simp only [declWorld, this]
  rfl

theorem addSnap_declWorld {w : World} {f : FnId} {gs : List (List Nat)} {ss ps : List Nat} {s : Nat}
    (h : w.checker? f = none) :
    addSnap (declWorld w f gs ss ps) f s =
      if ps.isEmpty then .error .valueErrorNoChecker
      else if ss.any (fun t => snapName w t == snapName w s) then
        .error (.valueErrorDuplicateSnapshot (snapName w s))
      else .ok (declWorld w f gs (ss ++ [s]) ps) := by
  obtain ⟨_, g1, g2, _⟩ := declWorld_get w f gs ss ps
  have hsn : snapName (declWorld w f gs ss ps) = snapName w := rfl
  simp only [addSnap, declWorld_checker gs ss ps h, g1, g2, hsn]
  have := Heap.append_app w.heap ([List.range' (w.heap.length + 3) gs.length, ss, ps] ++ gs) 1 s
  simp only [declWorld, this]
  rfl

theorem addPre_declWorld_nil {w : World} {f : FnId} {ss ps : List Nat} {c : CId} (h : w.checker? f = none) :
    addPre (declWorld w f [] ss ps) f c = declWorld w f [[c]] ss ps := by
  obtain ⟨g0, _, _, _⟩ := declWorld_get w f [] ss ps
  simp only [addPre_of_checker c (declWorld_checker [] ss ps h), g0]
  simp only [declWorld, List.append_assoc, List.cons_append, List.nil_append, List.length_nil,
    List.range'_zero, List.append_nil]
  have := Heap.append_app w.heap [[], ss, ps, [c]] 0 (w.heap.length + 3)
  simp only [Nat.add_zero] at this
  simp only [List.length_append, List.length_cons, List.length_nil, Nat.zero_add, this]
  rfl

theorem addPre_declWorld_one {w : World} {f : FnId} {g ss ps : List Nat} {c : CId} (h : w.checker? f = none) :
    addPre (declWorld w f [g] ss ps) f c = declWorld w f [g ++ [c]] ss ps := by
  obtain ⟨g0, _, _, _⟩ := declWorld_get w f [g] ss ps
  simp only [addPre_of_checker c (declWorld_checker [g] ss ps h), g0]
  have := Heap.append_app w.heap [[w.heap.length + 3], ss, ps, g] 3 c
  simp only [declWorld, List.length_cons, List.length_nil, Nat.zero_add, List.range'_one, List.cons_append,
    List.nil_append, this]
  rfl

theorem addPost_ensureChecker (w : World) (f : FnId) (c : CId) :
    addPost (ensureChecker w f).1 f c = addPost w f c := by
  simp only [addPost, ensureChecker_some (ensureChecker_checker w f)]

theorem addPre_ensureChecker (w : World) (f : FnId) (c : CId) :
    addPre (ensureChecker w f).1 f c = addPre w f c := by
  simp only [addPre, ensureChecker_some (ensureChecker_checker w f)]

theorem addPost_fresh_eq {w : World} {f : FnId} (c : CId) (h : w.checker? f = none) :
    addPost w f c = declWorld w f [] [] [c] := by
  rw [← addPost_ensureChecker, ensureChecker_none h]
  exact addPost_declWorld h

theorem addPre_fresh_eq {w : World} {f : FnId} (c : CId) (h : w.checker? f = none) :
    addPre w f c = declWorld w f [[c]] [] [] := by
  rw [← addPre_ensureChecker, ensureChecker_none h]
  exact addPre_declWorld_nil h

theorem copyCells_nil (w : World) : copyCells w [] = (w, []) := rfl

theorem copyCells_spec (w : World) (rs : List Ref) :
    ∃ cells : List (List Nat), cells.length = rs.length ∧
      copyCells w rs = ({ w with heap := w.heap ++ cells }, List.range' w.heap.length rs.length) ∧
      ((∀ r ∈ rs, r < w.heap.length) → cells = rs.map w.heap.get) := by
  induction rs generalizing w with
  | nil => exact ⟨[], rfl, by simp [copyCells], fun _ => rfl⟩
  | cons r rest ih =>
    obtain ⟨cells, hl, he, hc⟩ := ih { w with heap := (w.heap.alloc (w.heap.get r)).1 }
    refine ⟨w.heap.get r :: cells, congrArg Nat.succ hl, ?_, fun h => ?_⟩
    · have hcons : copyCells w (r :: rest) =
          ((copyCells { w with heap := (w.heap.alloc (w.heap.get r)).1 } rest).1,
           w.heap.length :: (copyCells { w with heap := (w.heap.alloc (w.heap.get r)).1 } rest).2) := rfl
      rw [hcons, he]
      simp [Heap.alloc, List.range'_succ]
    · rw [hc (fun x hx => by
        rw [Heap.length_alloc]; exact Nat.lt_succ_of_lt (h x (List.mem_cons_of_mem _ hx)))]
      simp only [List.map_cons]
      congr 1
      exact List.map_congr_left (fun x hx => Heap.get_alloc_lt (h x (List.mem_cons_of_mem _ hx)))

theorem snapName_congr {w w' : World} (h : w'.snapNames = w.snapNames) : snapName w' = snapName w := by
  funext s
  simp only [snapName, h]

theorem firstDuplicate_congr {w w' : World} (h : w'.snapNames = w.snapNames) :
    firstDuplicate w' = firstDuplicate w := by
  funext l
  unfold firstDuplicate
  generalize ([] : List String) = seen
  induction l generalizing seen with
  | nil => rfl
  | cons s rest ih => simp only [firstDuplicate.go, snapName_congr h, ih]

theorem firstDuplicate_go_none (w : World) : ∀ (l : List Nat) (seen : List String),
    firstDuplicate.go w seen l = none ↔ (l.map (snapName w)).Nodup ∧ ∀ s ∈ l, snapName w s ∉ seen := by
  intro l
  induction l with
  | nil => intro seen; simp [firstDuplicate.go]
  | cons s rest ih =>
    intro seen
    simp only [firstDuplicate.go, List.contains_iff_mem]
    split
    · next hc => exact ⟨(nomatch ·), fun h => absurd hc (h.2 s List.mem_cons_self)⟩
    · next hc =>
      rw [ih]
      simp only [List.map_cons, List.nodup_cons, List.mem_cons, List.mem_map, forall_eq_or_imp, not_or, not_exists,
        not_and]
      exact ⟨fun ⟨h1, h2⟩ => ⟨⟨fun x hx e => (h2 x hx).1 e, h1⟩, hc, fun x hx => (h2 x hx).2⟩,
        fun ⟨⟨h1, h2⟩, _, h3⟩ => ⟨h2, fun x hx => ⟨h1 x hx, h3 x hx⟩⟩⟩

theorem firstDuplicate_none_iff (w : World) (l : List Nat) :
    firstDuplicate w l = none ↔ (l.map (snapName w)).Nodup := by
  unfold firstDuplicate
  rw [firstDuplicate_go_none]
  simp

theorem firstDuplicate_some_iff (w : World) (l : List Nat) :
    (∃ n, firstDuplicate w l = some n) ↔ ¬ (l.map (snapName w)).Nodup := by
  rw [← firstDuplicate_none_iff]
  cases firstDuplicate w l <;> simp

/-- the world after the collapsed lists have been installed on `f`'s checker -/
def installed (w : World) (f : FnId) (pre snaps posts : List Nat) : World :=
  let w1 := (ensureChecker w f).1
  { w1 with
    heap := w1.heap ++ [pre, snaps, posts],
    checkers := w1.checkers.map (fun p => if p.1 == f then
      (f, { pre := w1.heap.length, snaps := w1.heap.length + 1, posts := w1.heap.length + 2 }) else p) }

theorem installed_frame (w : World) (f : FnId) (pre snaps posts : List Nat) :
    Frame (· = f) w (installed w f pre snaps posts) := by
  refine (ensureChecker_frame w f).trans ⟨HPres.app, rfl, rfl, fun f' hf' => ?_⟩
  simp only [World.checker?, installed]
  rw [find?_rebind_ne hf']

theorem installed_checker {w : World} {f : FnId} {pre snaps posts : List Nat} :
    (installed w f pre snaps posts).checker? f =
      some { pre := (ensureChecker w f).1.heap.length, snaps := (ensureChecker w f).1.heap.length + 1,
             posts := (ensureChecker w f).1.heap.length + 2 } :=
  find?_rebind_self _ (ensureChecker_checker w f)

/-- the world after the collapse of `f` has been installed: copies of the base groups, then `f`'s three new lists -/
def collapsedWorld (w : World) (f : FnId) (bPre snaps posts : List Nat) : World :=
  installed (copyCells w bPre).1 f ((copyCells w bPre).2 ++ ownPre w f) snaps posts

/-- `_decorate_namespace_function` for an inherited member, decision by decision -/
theorem decorateOne_eq (w : World) (key : String) (f : FnId) (hv : Bool) (bPre bSnaps bPosts : List Nat) :
    decorateOne w key f true (hv, bPre, bSnaps, bPosts) =
      if bPre = [] ∧ hv = true ∧ ownPre w f ≠ [] then .error (.typeErrorWeaken key)
      else match firstDuplicate w (bSnaps ++ ownSnaps w f) with
        | some n => .error (.valueErrorDuplicateSnapshot n)
        | none =>
          if bPre ++ ownPre w f = [] ∧ bPosts ++ ownPosts w f = [] then .ok w
          else .ok (collapsedWorld w f bPre (bSnaps ++ ownSnaps w f) (bPosts ++ ownPosts w f)) := by
  -- first the body as it is written (Bool tests, everything over the world after `copyCells`); then the tests as
  -- propositions over `w`: copying changes neither `snapNames` nor emptiness, and with nothing to install nothing
  -- was copied
  have h0 : decorateOne w key f true (hv, bPre, bSnaps, bPosts) =
      if (bPre.isEmpty && hv && !(ownPre w f).isEmpty) = true then .error (.typeErrorWeaken key)
      else match firstDuplicate (copyCells w bPre).1 (bSnaps ++ ownSnaps w f) with
        | some n => .error (.valueErrorDuplicateSnapshot n)
        | none =>
          if (((copyCells w bPre).2 ++ ownPre w f).isEmpty && (bPosts ++ ownPosts w f).isEmpty) = true then
            .ok (copyCells w bPre).1
          else .ok (installed (copyCells w bPre).1 f ((copyCells w bPre).2 ++ ownPre w f)
            (bSnaps ++ ownSnaps w f) (bPosts ++ ownPosts w f)) := by
    unfold decorateOne installed ownPre ownSnaps ownPosts
    simp only [Bool.not_true, Bool.false_eq_true, if_false, Heap.alloc_snd, Heap.length_alloc, Heap.alloc3]
    rfl
  obtain ⟨cells, hl, he, _⟩ := copyCells_spec w bPre
  have hsn : (copyCells w bPre).1.snapNames = w.snapNames := by rw [he]
  have hnil : (copyCells w bPre).2 = [] → bPre = [] := fun e => by
    rw [he] at e
    exact List.eq_nil_of_length_eq_zero (List.range'_eq_nil_iff.mp e)
  have c1 : (bPre.isEmpty && hv && !(ownPre w f).isEmpty) = true ↔ bPre = [] ∧ hv = true ∧ ownPre w f ≠ [] := by
    simp only [Bool.and_eq_true, Bool.not_eq_true', List.isEmpty_iff, and_assoc, ne_eq,
      ← Bool.not_eq_true, List.isEmpty_iff]
  have c2 : (((copyCells w bPre).2 ++ ownPre w f).isEmpty && (bPosts ++ ownPosts w f).isEmpty) = true ↔
      bPre ++ ownPre w f = [] ∧ bPosts ++ ownPosts w f = [] := by
    simp only [Bool.and_eq_true, List.isEmpty_iff, List.append_eq_nil_iff]
    exact ⟨fun h => ⟨⟨hnil h.1.1, h.1.2⟩, h.2⟩, fun h => ⟨⟨by rw [h.1.1]; rfl, h.1.2⟩, h.2⟩⟩
  rw [h0, firstDuplicate_congr hsn]
  refine ite_congr (propext c1) (fun _ => rfl) (fun _ => ?_)
  cases firstDuplicate w (bSnaps ++ ownSnaps w f) with
  | some n => rfl
  | none =>
    refine ite_congr (propext c2) (fun h => ?_) (fun _ => rfl)
    have hb : bPre = [] := (List.append_eq_nil_iff.mp h.1).1
    subst hb
    rfl

/-- what the installation of a collapse leaves behind: `bPre.length` copies of the base groups in the next cells, then
(possibly after the three cells of a new checker) the three lists `f`'s checker is re-bound to, in the last three
cells `N`, `N + 1`, `N + 2`; nothing else moves -/
structure Collapsed (w w' : World) (f : FnId) (N : Nat) (bPre own snaps posts : List Nat) : Prop where
  frame : Frame (· = f) w w'
  names : w'.snapNames = w.snapNames
  keys : (w.checkers.map (·.1)).Nodup → (w'.checkers.map (·.1)).Nodup
  base : w.heap.length + bPre.length ≤ N
  len : w'.heap.length = N + 3
  checker : w'.checker? f = some { pre := N, snaps := N + 1, posts := N + 2 }
  preCell : w'.heap.get N = List.range' w.heap.length bPre.length ++ own
  snapsCell : w'.heap.get (N + 1) = snaps
  postsCell : w'.heap.get (N + 2) = posts
  copies : (∀ r ∈ bPre, r < w.heap.length) →
    (List.range' w.heap.length bPre.length).map w'.heap.get = bPre.map w.heap.get

theorem collapsedWorld_spec (w : World) (f : FnId) (bPre : List Nat) {snaps posts : List Nat} :
    ∃ N, Collapsed w (collapsedWorld w f bPre snaps posts) f N bPre (ownPre w f) snaps posts := by
  -- three frames composed: the copies (`copyCells_spec`), `ensureChecker`, the installation; `N` is the length of
  -- the heap after the first two
  obtain ⟨cells, hl, he, hc⟩ := copyCells_spec w bPre
  unfold collapsedWorld
  rw [he]
  simp only []
  generalize hw1 : ({ w with heap := w.heap ++ cells } : World) = w1
  have fr0 : Frame (· = f) w w1 := by rw [← hw1]; exact ⟨HPres.app, rfl, rfl, fun _ _ => rfl⟩
  have hlen1 : w1.heap.length = w.heap.length + bPre.length := by rw [← hw1, ← hl]; exact List.length_append
  have fr1 := ensureChecker_frame w1 f
  have fr2 := installed_frame w1 f (List.range' w.heap.length bPre.length ++ ownPre w f) snaps posts
  have er := ensureChecker_snapNames_keys w1 f
  have hh := Heap.get_three (ensureChecker w1 f).1.heap (List.range' w.heap.length bPre.length ++ ownPre w f)
    snaps posts
  refine ⟨_, fr0.trans fr2, ?_, fun hnd => ?_, ?_, List.length_append, installed_checker, hh.1, hh.2.1, hh.2.2,
    fun hb => ?_⟩
  · exact er.1.trans (congrArg World.snapNames hw1).symm
  · simp only [installed]
    rw [keys_rebind]
    exact er.2 (by rw [← hw1]; exact hnd)
  · rw [← hlen1]; exact fr1.heap.2
  · have hm := Heap.map_get_app w.heap cells 0
    rw [Nat.add_zero, Nat.sub_zero, List.drop_zero, hl] at hm
    rw [← hc hb, ← hm]
    refine List.map_congr_left (fun g hg => ?_)
    rw [List.mem_range'_1] at hg
    rw [fr2.heap.1 g (hlen1 ▸ hg.2), ← hw1]

theorem Collapsed.preOf_eq {w w' : World} {f : FnId} {N : Nat} {bPre own snaps posts : List Nat}
    (c : Collapsed w w' f N bPre own snaps posts) (hlt : ∀ g ∈ bPre ++ own, g < w.heap.length) :
    preOf w' f = (bPre ++ own).map w.heap.get := by
  simp only [preOf, c.checker, c.preCell, List.map_append]
  congr 1
  · exact c.copies (fun g hg => hlt g (List.mem_append_left _ hg))
  · exact List.map_congr_left (fun g hg => c.frame.heap.1 g (hlt g (List.mem_append_right _ hg)))

theorem decorateOne_spec {w w' : World} {key : String} {f : FnId} {hv : Bool} {bPre bSnaps bPosts : List Nat}
    (h : decorateOne w key f true (hv, bPre, bSnaps, bPosts) = .ok w') :
    ¬ (bPre = [] ∧ hv = true ∧ ownPre w f ≠ []) ∧ firstDuplicate w (bSnaps ++ ownSnaps w f) = none ∧
    ((bPre ++ ownPre w f = [] ∧ bPosts ++ ownPosts w f = [] ∧ w' = w) ∨
      ∃ N, Collapsed w w' f N bPre (ownPre w f) (bSnaps ++ ownSnaps w f) (bPosts ++ ownPosts w f)) := by
  rw [decorateOne_eq] at h
  split at h
  · cases h
  · next hw =>
    refine ⟨hw, ?_⟩
    split at h
    · cases h
    · next hfd =>
      refine ⟨hfd, ?_⟩
      split at h
      · next he => exact Or.inl ⟨he.1, he.2, (Except.ok.inj h).symm⟩
      · exact Or.inr (Except.ok.inj h ▸ collapsedWorld_spec w f bPre)

theorem decorateOne_accepts {w : World} {key : String} {f : FnId} {hv : Bool} {bPre bSnaps bPosts : List Nat}
    (hnw : ¬ (bPre = [] ∧ hv = true ∧ ownPre w f ≠ []))
    (hnd : ((bSnaps ++ ownSnaps w f).map (snapName w)).Nodup) :
    ∃ w', decorateOne w key f true (hv, bPre, bSnaps, bPosts) = .ok w' := by
  rw [decorateOne_eq, if_neg hnw, (firstDuplicate_none_iff w _).mpr hnd]
  simp only []
  split <;> exact ⟨_, rfl⟩

theorem decorateOne_off (w : World) (key : String) (f : FnId) (base : Bool × List Nat × List Nat × List Nat) :
    decorateOne w key f false base = .ok w := rfl

theorem decorateOne_cases {w w' : World} {key : String} {f : FnId} {inh hv : Bool} {bPre bSnaps bPosts : List Nat}
    (h : decorateOne w key f inh (hv, bPre, bSnaps, bPosts) = .ok w') :
    w' = w ∨ ∃ N, Collapsed w w' f N bPre (ownPre w f) (bSnaps ++ ownSnaps w f) (bPosts ++ ownPosts w f) := by
  cases inh with
  | false => rw [decorateOne_off] at h; exact Or.inl (Except.ok.inj h).symm
  | true => exact (decorateOne_spec h).2.2.imp (·.2.2) id

theorem decorateOne_frame {w w' : World} {key : String} {f : FnId} {inh : Bool}
    {base : Bool × List Nat × List Nat × List Nat}
    (h : decorateOne w key f inh base = .ok w') : Frame (· = f) w w' :=
  (decorateOne_cases h).elim (fun e => e ▸ Frame.refl) (fun ⟨_, c⟩ => c.frame)

theorem decorateOne_snapNames {w w' : World} {key : String} {f : FnId} {inh : Bool}
    {base : Bool × List Nat × List Nat × List Nat}
    (h : decorateOne w key f inh base = .ok w') : w'.snapNames = w.snapNames :=
  (decorateOne_cases h).elim (fun e => e ▸ rfl) (fun ⟨_, c⟩ => c.names)

theorem BaseAcc.add_checker (w : World) (acc : BaseAcc) (g : FnId) :
    acc.add w (w.checker? g) =
      { haveFunc := true, acceptAll := acc.acceptAll || (ownPre w g).isEmpty, pre := acc.pre ++ ownPre w g,
        snaps := acc.snaps ++ ownSnaps w g, posts := acc.posts ++ ownPosts w g } := by
  unfold BaseAcc.add ownPre ownSnaps ownPosts
  cases w.checker? g with
  | none => simp
  | some ck => rfl

theorem collectBases_filterMap (w : World) (key : String) (bases : List ClsId) :
    collectBases w bases key =
      ((bases.filterMap (fun b => lookupMember w b key)).foldl
        (fun (acc : BaseAcc) m => acc.add w (m.asFunc.bind w.checker?)) {}).result := by
  unfold collectBases
  generalize ({} : BaseAcc) = acc
  induction bases generalizing acc with
  | nil => rfl
  | cons b bs ih =>
    rw [List.foldl_cons, List.filterMap_cons]
    cases lookupMember w b key with
    | none => exact ih acc
    | some m => exact ih _

theorem collectBases_eq (w : World) (key : String) (bases : List ClsId) (gs : List FnId)
    (h : bases.filterMap (fun b => lookupMember w b key) = gs.map Member.func) :
    collectBases w bases key =
      (!gs.isEmpty, if gs.any (fun g => (ownPre w g).isEmpty) then [] else gs.flatMap (ownPre w),
        gs.flatMap (ownSnaps w), gs.flatMap (ownPosts w)) := by
  have fold : ∀ (gs : List FnId) (acc : BaseAcc),
      gs.foldl (fun (acc : BaseAcc) g => acc.add w (w.checker? g)) acc =
      { haveFunc := acc.haveFunc || !gs.isEmpty,
        acceptAll := acc.acceptAll || gs.any (fun g => (ownPre w g).isEmpty),
        pre := acc.pre ++ gs.flatMap (ownPre w), snaps := acc.snaps ++ gs.flatMap (ownSnaps w),
        posts := acc.posts ++ gs.flatMap (ownPosts w) } := by
    intro gs
    induction gs with
    | nil => intro acc; simp
    | cons g gs ih =>
      intro acc
      rw [List.foldl_cons, ih, BaseAcc.add_checker]
      simp [Bool.or_assoc]
  rw [collectBases_filterMap, h, List.foldl_map]
  exact congrArg BaseAcc.result (fold gs {})

theorem basesFor_eq_self {w : World} {bases : List ClsId} {key : String} {f : FnId}
    (h : ∀ b ∈ bases, (lookupMember w b key).bind Member.asFunc ≠ some f) : basesFor w bases key f = bases := by
  unfold basesFor
  apply List.filter_eq_self.mpr
  intro b hb
  simpa using h b hb

theorem basesFor_eq_of_members {ι : Type} {w : World} {key : String} {f : FnId} {bases : List ClsId} {ps : List ι}
    {fn : ι → FnId}
    (hb : bases.filterMap (fun b => lookupMember w b key) = ps.map (fun p => Member.func (fn p)))
    (hne : ∀ p ∈ ps, fn p ≠ f) : basesFor w bases key f = bases := by
  apply basesFor_eq_self
  intro b hbm e
  cases hl : lookupMember w b key with
  | none => rw [hl] at e; cases e
  | some m =>
    have hm : m ∈ bases.filterMap (fun b => lookupMember w b key) := List.mem_filterMap.mpr ⟨b, hbm, hl⟩
    rw [hb] at hm
    obtain ⟨p, hp, rfl⟩ := List.mem_map.mp hm
    rw [hl] at e
    exact hne p hp (Option.some.inj e)

/-- an ordinary function member (no constructor) is collapsed with what the bases other than its own hand down -/
theorem decorateMember_func {key : String} (hkey : key ≠ "__init__" ∧ key ≠ "__new__") (w : World)
    (bases : List ClsId) (f : FnId) :
    decorateMember w bases key (.func f) = decorateOne w key f true (collectBases w (basesFor w bases key f) key) := by
  have hk : (key != "__init__" && key != "__new__") = true := by simp [hkey.1, hkey.2]
  simp only [decorateMember, hk]

/-- `f` is the function object behind some accessor of `m` -/
def Member.mentions (m : Member) (f : FnId) : Prop := ∃ which, memberFnId m which = some f

theorem decorateMember_ind {Q : World → Prop} {m : Member}
    (step : ∀ {w w' key f inh base}, m.mentions f → decorateOne w key f inh base = .ok w' → Q w → Q w')
    {w w' : World} {bases : List ClsId} {key : String}
    (h : decorateMember w bases key m = .ok w') (hq : Q w) : Q w' := by
  cases m with
  | func f | static f | classm f => unfold decorateMember at h; exact step ⟨0, rfl⟩ h hq
  | other => cases h; exact hq
  | prop g s d =>
    have opt : ∀ (which : Nat) (o : Option FnId) {base : FnId → Bool × List Nat × List Nat × List Nat}
        {w w' : World}, memberFnId (.prop g s d) which = o →
        (match o with | some f => decorateOne w key f true (base f) | none => .ok w) = .ok w' → Q w → Q w' := by
      intro which o base w w' ho h hq
      cases o with
      | none => cases h; exact hq
      | some f => exact step ⟨which, ho⟩ h hq
    unfold decorateMember at h
    obtain ⟨w1, h1, h⟩ := Except.bind_eq_ok_iff.mp h
    obtain ⟨w2, h2, h⟩ := Except.bind_eq_ok_iff.mp h
    exact opt 2 d rfl h (opt 1 s rfl h2 (opt 0 g rfl h1 hq))

theorem nsPass_ind {Q : World → Prop} {bases : List ClsId} {ns : List (String × Member)}
    (step : ∀ {w w' key f inh base}, (∃ p ∈ ns, p.2.mentions f) → decorateOne w key f inh base = .ok w' →
      Q w → Q w')
    {w w' : World} (h : ns.foldlM (fun w (p : String × Member) => decorateMember w bases p.1 p.2) w = .ok w')
    (hq : Q w) : Q w' := by
  induction ns generalizing w with
  | nil =>
    simp only [List.foldlM_nil, pure, Except.pure] at h
    cases h; exact hq
  | cons p ns ih =>
    rw [List.foldlM_cons] at h
    obtain ⟨w1, h1, h⟩ := Except.bind_eq_ok_iff.mp h
    exact ih (fun ⟨q, hq, hm⟩ => step ⟨q, List.mem_cons_of_mem _ hq, hm⟩)
      h (decorateMember_ind (fun hm => step ⟨p, List.mem_cons_self, hm⟩) h1 hq)

theorem decorateMember_frame {w w' : World} {bases : List ClsId} {key : String} {m : Member}
    (h : decorateMember w bases key m = .ok w') : Frame m.mentions w w' :=
  decorateMember_ind (Q := Frame m.mentions w)
    (fun hm hd fr => fr.trans ((decorateOne_frame hd).mono (fun _ hg => hg ▸ hm)))
    h Frame.refl

theorem nsPass_frame {bases : List ClsId} {ns : List (String × Member)} {w w' : World}
    (h : ns.foldlM (fun w (p : String × Member) => decorateMember w bases p.1 p.2) w = .ok w') :
    Frame (fun f => ∃ p ∈ ns, p.2.mentions f) w w' :=
  nsPass_ind (Q := Frame (fun f => ∃ p ∈ ns, p.2.mentions f) w)
    (fun hm hd fr => fr.trans ((decorateOne_frame hd).mono (fun _ hg => hg ▸ hm)))
    h Frame.refl

theorem Frame.dropNew {S : FnId → Prop} {w w' : World} (h : Frame S w w') :
    Frame S w { w' with checkers := w'.checkers.filter (fun p => (w.checker? p.1).isSome) } := by
  refine ⟨h.heap, h.classes, h.hooks, fun f hf => ?_⟩
  -- among the entries for `f` the filter keeps all or none
  have hq : (fun a : FnId × CheckerObj => decide ((w.checker? a.1).isSome = true ∧ (a.1 == f) = true)) =
      fun a => (w.checker? f).isSome && (a.1 == f) := by
    funext a
    by_cases ha : a.1 = f <;> simp [ha]
  show ((w'.checkers.filter _).find? (·.1 == f)).map (·.2) = w.checker? f
  rw [List.find?_filter, hq, ← h.checkers f hf]
  cases hw : w'.checker? f with
  | none =>
    have : w'.checkers.find? (fun _ => false) = none := List.find?_eq_none.mpr (fun _ _ h => Bool.noConfusion h)
    exact congrArg (Option.map (fun p : FnId × CheckerObj => p.2)) this
  | some ck => exact hw

theorem defineClassResidue_frame (bases : List ClsId) (ns : List (String × Member)) (w : World) :
    Frame (fun f => ∃ p ∈ ns, p.2.mentions f) w (defineClassResidue w bases ns) := by
  induction ns generalizing w with
  | nil => exact Frame.refl
  | cons p ns ih =>
    obtain ⟨key, m⟩ := p
    unfold defineClassResidue
    cases hd : decorateMember w bases key m with
    | error e => exact Frame.refl
    | ok w' =>
      have f1 := ((decorateMember_frame hd).dropNew).mono
        (T := fun f => ∃ q ∈ (key, m) :: ns, q.2.mentions f) (fun f hf => ⟨(key, m), List.mem_cons_self, hf⟩)
      have f2 := (ih { w' with checkers := w'.checkers.filter (fun p => (w.checker? p.1).isSome) }).mono
        (T := fun f => ∃ q ∈ (key, m) :: ns, q.2.mentions f)
        (fun f ⟨q, hq, hm⟩ => ⟨q, List.mem_cons_of_mem _ hq, hm⟩)
      exact f1.trans f2

end Icontract.Meta
