/-
  Machine-checked refutations of the statements of C06 / C07 without the hypothesis `e.wf`: `Expr` admits an
  operand-less `boolop` and a link-less `compare` (never produced by Python's `ast`), which `pyEval`
  evaluates but `visit` treats as PLACEHOLDER.  Every witness below is built on an operand-less `boolop`, so `Expr.wf`
  (Lemmas/ExprWf.lean, not needed here) is `false` on `e1`, `e2` and `e3`, by `rfl`.
-/
import IcontractModel.Spec.PyEval
import IcontractModel.Recompute
namespace Icontract.Ex.Cex

def ops0 : Ops where
  unary := fun _ v => .ok v
  bin := fun _ a _ => .ok a
  cmp := fun _ _ _ => .ok (.bool true)
  truth := fun v => match v with | .bool b => .ok b | _ => .ok true
  attr := fun _ _ => .error "AttributeError"
  subscr := fun a _ => .ok a
  call := fun f _ => .ok f
  comp := fun _ _ => .ok .none
  -- displays, unpacking, keyword calls and formatting: the simplest sensible semantics
  mkSet := fun xs => .ok (.set xs)
  iter := fun v => match v with
    | .list xs => .ok xs
    | .tuple xs => .ok xs
    | .set xs => .ok xs
    | _ => .error "TypeError"
  dictEmpty := .dict [] []
  dictSet := fun d k v => match d with
    | .dict ks vs => .ok (.dict (ks ++ [k]) (vs ++ [v]))
    | _ => .error "TypeError"
  dictUpdate := fun d u => match d, u with
    | .dict ks vs, .dict ks' vs' => .ok (.dict (ks ++ ks') (vs ++ vs'))
    | _, _ => .error "TypeError"
  kwItems := fun v => match v with
    | .dict ks vs => .ok ((ks.zip vs).filterMap (fun p => match p.1 with | .str s => some (s, p.2) | _ => none))
    | _ => .error "TypeError"
  callkw := fun f _ _ => .ok f
  format := fun v _ _ => .ok (.str (match v with | .str s => s | .int i => toString i | _ => "<value>"))
  join := fun vs => .ok (.str (String.join (vs.map (fun v => match v with | .str s => s | _ => "<value>"))))

def env0 : Env := ⟨[], []⟩

/-- `and()` with no operand: `pyEval` gives `True` and logs node 0, the visitor returns PLACEHOLDER and logs nothing -/
def e1 : Expr := .boolop 0 true []
/-- `<and()> and False and 1`: `pyEval` stops at `False` (log: nodes 0, 1, 5); the visitor, past the PLACEHOLDER, tests
nothing any more, logs nodes 1 and 2 - the `1` which Python skipped - and returns PLACEHOLDER -/
def e2 : Expr := .boolop 5 true [.boolop 0 true [], .const 1 (.bool false), .const 2 (.int 1)]
/-- `<and()> and False and (1).a`: as `e2`, but the operand which Python skipped raises AttributeError in the visitor -/
def e3 : Expr := .boolop 5 true [.boolop 0 true [], .const 1 (.bool false), .attr 3 (.const 2 (.int 1)) "a"]

theorem C06_recomputed_values_are_pythons_false :
    ¬ ∀ (ops : Ops) (env : Env) (e : Expr) (v : Val) (P : Log),
      (allIds e).Nodup → pyEval ops env e = .ok (v, P) →
      (visit ops env.builtins (Tbl.ofNames env.names) e).out = .ok (some v) ∧
      (visit ops env.builtins (Tbl.ofNames env.names) e).log.filter (fun p => !(innerIds e).contains p.1) = P := by
  intro H
  cases (H ops0 env0 e1 _ _ (by decide +kernel) rfl).1

/-- the same with a permutation in place of the equality -/
theorem C06_recomputed_values_are_pythons_perm_false :
    ¬ ∀ (ops : Ops) (env : Env) (e : Expr) (v : Val) (P : Log),
      (allIds e).Nodup → pyEval ops env e = .ok (v, P) →
      (visit ops env.builtins (Tbl.ofNames env.names) e).out = .ok (some v) ∧
      ((visit ops env.builtins (Tbl.ofNames env.names) e).log.filter (fun p => !(innerIds e).contains p.1)).Perm P := by
  intro H
  cases (H ops0 env0 e1 _ _ (by decide +kernel) rfl).1

theorem C06_everything_python_evaluated_is_recorded_false :
    ¬ ∀ (ops : Ops) (env : Env) (e : Expr) (v : Val) (P : Log),
      (allIds e).Nodup → pyEval ops env e = .ok (v, P) →
      ∀ p ∈ P, p ∈ (visit ops env.builtins (Tbl.ofNames env.names) e).log := by
  intro H
  cases H ops0 env0 e1 _ _ (by decide +kernel) rfl (0, .bool true) List.mem_cons_self

theorem C07_no_extra_evaluation_false :
    ¬ ∀ (ops : Ops) (env : Env) (e : Expr) (v : Val) (P : Log),
      (allIds e).Nodup → pyEval ops env e = .ok (v, P) →
      ∀ p ∈ (visit ops env.builtins (Tbl.ofNames env.names) e).log,
        (innerIds e).contains p.1 = false → p.1 ∈ P.map (·.1) := by
  intro H
  have h := H ops0 env0 e2 _ _ (by decide +kernel) rfl (2, .int 1) (List.mem_cons_of_mem _ List.mem_cons_self) rfl
  exact absurd h (by decide)

theorem C06_every_recorded_value_is_pythons_false :
    ¬ ∀ (ops : Ops) (env : Env) (e : Expr) (v : Val) (P : Log),
      (allIds e).Nodup → pyEval ops env e = .ok (v, P) →
      ∀ p ∈ (visit ops env.builtins (Tbl.ofNames env.names) e).log,
        (innerIds e).contains p.1 = false → p ∈ P := by
  intro H
  have h := H ops0 env0 e2 _ _ (by decide +kernel) rfl (2, .int 1) (List.mem_cons_of_mem _ List.mem_cons_self) rfl
  exact absurd (List.mem_map_of_mem (f := (·.1)) h) (by decide)

theorem C07_reevaluation_total_false :
    ¬ ∀ (ops : Ops) (env : Env) (e : Expr) (v : Val) (P : Log),
      (allIds e).Nodup → pyEval ops env e = .ok (v, P) →
      ∃ r, (visit ops env.builtins (Tbl.ofNames env.names) e).out = .ok r := by
  intro H
  obtain ⟨r, h⟩ := H ops0 env0 e3 _ _ (by decide +kernel) rfl
  cases h

end Icontract.Ex.Cex
