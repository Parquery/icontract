/-
  The set discipline of the repaired wrappers simulates the frame semantics (`run_sim`): from states
  related by `Sim` (set and stack describe the same suspensions) with equal traces, `run` and `runSpec`
  give the same outcome and trace (`Obs`); that they end in related states again is `run_s` and
  `runSpec_stack`.
-/
import IcontractModel.Lemmas.ReentryRun
import IcontractModel.Lemmas.Frames
namespace Icontract.Re

/-- the in-progress set and the frame stack describe the same suspensions -/
def Sim (s : List Key) (stack : List Frame) : Prop :=
  (∀ f, s.contains (.fn f) = (SSt.fnSuspended ⟨stack, []⟩ f)) ∧
  (∀ i, s.contains (.inst i) = (SSt.instSuspended ⟨stack, []⟩ i))

-- `fnSuspended` and `instSuspended` read the stack only: any state with that stack may stand for it
theorem Sim.iff {s : List Key} {b : SSt} : Sim s b.stack ↔
    (∀ f, s.contains (.fn f) = b.fnSuspended f) ∧ ∀ i, s.contains (.inst i) = b.instSuspended i :=
  Iff.rfl

theorem Sim.fnContract {a : St} {b : SSt} (h : Sim a.s b.stack) (f : FnId) :
    Sim (a.add (.fn f)).s (b.push (.fn f) .fnContract).stack := by
  refine Sim.iff.2 ⟨fun g => ?_, fun i => ?_⟩
  · rw [contains_add, SSt.fnSuspended_push, ← (Sim.iff.1 h).1 g]
    by_cases hg : g = f
    · subst hg; rw [beq_self_eq_true]; rfl
    · rw [beq_false_of_ne (fun e => hg (Key.fn.inj e)), beq_false_of_ne (fun e => hg (Key.fn.inj e).symm)]
      rfl
  · rw [contains_add, SSt.instSuspended_push, ← (Sim.iff.1 h).2 i,
      beq_false_of_ne (fun e => Key.noConfusion e), beq_false_of_ne (fun e => Key.noConfusion e)]
    rfl

theorem Sim.fnBody {s : List Key} {b : SSt} (h : Sim s b.stack) (f : FnId) :
    Sim s (b.push (.fn f) .fnBody).stack := by
  refine Sim.iff.2 ⟨fun g => ?_, fun i => ?_⟩
  · rw [SSt.fnSuspended_push, ← (Sim.iff.1 h).1 g]
    show _ = ((Key.fn f == Key.fn g && false) || _)
    rw [Bool.and_false, Bool.false_or]
  · rw [SSt.instSuspended_push, ← (Sim.iff.1 h).2 i, beq_false_of_ne (fun e => Key.noConfusion e)]
    rfl

theorem Sim.inst {a : St} {b : SSt} (h : Sim a.s b.stack) (i : InstId) {ph : Phase}
    (hph : (ph == .ctor || ph == .method || ph == .invEval) = true) :
    Sim (a.add (.inst i)).s (b.push (.inst i) ph).stack := by
  refine Sim.iff.2 ⟨fun g => ?_, fun j => ?_⟩
  · rw [contains_add, SSt.fnSuspended_push, ← (Sim.iff.1 h).1 g,
      beq_false_of_ne (fun e => Key.noConfusion e), beq_false_of_ne (fun e => Key.noConfusion e)]
    rfl
  · rw [contains_add, SSt.instSuspended_push, ← (Sim.iff.1 h).2 j, hph]
    by_cases hg : j = i
    · subst hg; rw [beq_self_eq_true]; rfl
    · rw [beq_false_of_ne (fun e => hg (Key.inst.inj e)), beq_false_of_ne (fun e => hg (Key.inst.inj e).symm)]
      rfl

/-- same outcome and same trace -/
def Obs (r : St × Out) (r' : SSt × Out) : Prop := r.2 = r'.2 ∧ r.1.tr = r'.1.tr

theorem Obs.andThen {r : St × Out} {r' : SSt × Out} {k : St → St × Out} {k' : SSt → SSt × Out}
    (h : Obs r r') (hk : r.1.tr = r'.1.tr → Obs (k r.1) (k' r'.1)) :
    Obs (andThen r k) (andThen r' k') := by
  by_cases hok : r.2 = .ok
  · rw [andThen_ok hok, andThen_ok (h.1 ▸ hok)]
    exact hk h.2
  · rw [andThen_ne hok, andThen_ne (h.1 ▸ hok)]
    exact h

theorem Obs.fin {x : Key} {r : St × Out} {r' : SSt × Out} (h : Obs r r') : Obs (fin x r) r' := h

theorem run_sim {p : Program} (hw : p.allCtorsWrapped = true) {n : Nat} {a : St} {b : SSt} {cmd : Cmd}
    (ht : a.tr = b.tr) (hs : Sim a.s b.stack) : Obs (run p .repaired n a cmd) (runSpec p n b cmd) := by
  induction n generalizing a b cmd with
  | zero => exact ⟨rfl, ht⟩
  | succ n ih =>
    -- a framed evaluation of the reference semantics against the plain evaluation of the model
    have key : ∀ {a : St} {b : SSt} {cmd : Cmd} {k : Key} {ph : Phase}, a.tr = b.tr →
        Sim a.s (⟨k, ph⟩ :: b.stack) →
        Obs (run p .repaired n a cmd) (framed k ph b (fun st => runSpec p n st cmd)) :=
      fun {_ b _ k ph} ht hs => ih (b := b.push k ph) ht hs
    have keye : ∀ {a : St} {b : SSt} {e : Ev} {cmd : Cmd} {k : Key} {ph : Phase}, a.tr = b.tr →
        Sim a.s (⟨k, ph⟩ :: b.stack) →
        Obs (run p .repaired n (a.emit e) cmd)
          (framed k ph b (fun st => runSpec p n (st.emit e) cmd)) :=
      fun {_ b e _ k ph} ht hs => ih (b := (b.push k ph).emit e)
        (by rw [emit_tr, SSt.emit_tr, SSt.push_tr, ht]) hs
    have hfr : ∀ {k : Key} {ph : Phase} {st0 : SSt} {cmd : Cmd},
        (framed k ph st0 (fun st => runSpec p n st cmd)).1.stack = st0.stack :=
      framed_stack runSpec_stack
    have hfre : ∀ {k : Key} {ph : Phase} {st0 : SSt} {e : Ev} {cmd : Cmd},
        (framed k ph st0 (fun st => runSpec p n (st.emit e) cmd)).1.stack = st0.stack :=
      framed_stack runSpec_stack
    cases cmd using Cmd.conds_cases with
    | script s => rw [run_script, runSpec_script]; exact ih ht hs
    | acts as =>
      cases as with
      | nil => exact ⟨rfl, ht⟩
      | cons act rest =>
        rw [run_acts_cons, runSpec_acts_cons]
        -- what a sub-evaluation leaves behind is related as before it: `run_s` and `runSpec_stack`
        exact Obs.andThen (ih ht hs) fun ht1 =>
          ih ht1 (by rw [run_s, runSpec_stack]; exact hs)
    | conds h k cs =>
      cases cs with
      | nil => rw [h.run_nil, h.runSpec_nil]; exact ⟨rfl, ht⟩
      | cons c cs =>
        rw [h.run_cons, h.runSpec_cons]
        refine Obs.andThen (ih (by rw [emit_tr, SSt.emit_tr, ht]) hs) fun ht1 => ?_
        split
        · exact ih ht1 (by rw [run_s, runSpec_stack]; exact hs)
        · exact ⟨rfl, ht1⟩
    | act act =>
      cases act with
      | callFn f =>
        cases h : p.fn? f with
        | none =>
          rw [run_callFn_none h, runSpec_callFn_none h]; exact ⟨rfl, ht⟩
        | some d =>
          have hsf := (Sim.iff.1 hs).1 f
          cases hc : a.s.contains (.fn f) with
          | true =>
            rw [run_callFn_bare_repaired h hc, runSpec_callFn_bare h (hsf ▸ hc)]
            exact keye ht (hs.fnBody f)
          | false =>
            rw [run_callFn_checked_repaired h hc, runSpec_callFn_checked h (hsf ▸ hc)]
            apply Obs.fin
            refine Obs.andThen (key (by rw [add_tr, ht]) (hs.fnContract f)) fun ht1 => ?_
            refine Obs.andThen (keye (by rw [discard_tr, ht1]) (Sim.fnBody ?_ f)) fun ht2 => ?_
            · rw [restored_of_eq_add hc run_s, hfr]; exact hs
            · refine key (by rw [add_tr, ht2]) (Sim.fnContract ?_ f)
              rw [run_s, emit_s, restored_of_eq_add hc run_s, hfre, hfr]; exact hs
      | callMethod i m =>
        rcases p.meth?_cases i m with h | ⟨c, md, h⟩
        · rw [run_callMethod_none h, runSpec_callMethod_none h]
          exact ⟨rfl, ht⟩
        · have hsi := (Sim.iff.1 hs).2 i
          cases hc : (!md.guarded || a.s.contains (.inst i)) with
          | true =>
            rw [run_callMethod_bare h hc,
              runSpec_callMethod_bare h (hsi ▸ hc)]
            exact ih (by rw [emit_tr, SSt.emit_tr, ht]) hs
          | false =>
            rw [run_callMethod_checked h hc,
              runSpec_callMethod_checked h (hsi ▸ hc)]
            apply Obs.fin
            refine Obs.andThen (key (by rw [add_tr, ht]) (hs.inst i rfl)) fun ht1 => ?_
            refine Obs.andThen (keye ht1 ?_) fun ht2 => key ht2 ?_
            · rw [run_s, hfr]; exact hs.inst i rfl
            · rw [run_s, emit_s, run_s, hfre, hfr]; exact hs.inst i rfl
      | construct i => rw [run_construct, runSpec_construct]; exact ih ht hs
      | superInit i cid =>
        cases h : p.cls? cid with
        | none =>
          rw [run_superInit_none h, runSpec_superInit_none h]
          exact ⟨rfl, ht⟩
        | some c =>
          have hsi := (Sim.iff.1 hs).2 i
          have hinit : c.initWrapped = true := List.all_eq_true.1 hw c (cls?_mem h)
          cases hc : a.s.contains (.inst i) with
          | true =>
            have hc' : (!c.initWrapped || a.s.contains (.inst i)) = true := by rw [hc, hinit]; rfl
            rw [run_superInit_bare_repaired h hc',
              runSpec_superInit_bare h (hsi ▸ hc)]
            exact ih (by rw [emit_tr, SSt.emit_tr, ht]) hs
          | false =>
            have hc' : (!c.initWrapped || a.s.contains (.inst i)) = false := by rw [hc, hinit]; rfl
            rw [run_superInit_checked_repaired h hc',
              runSpec_superInit_checked h (hsi ▸ hc)]
            apply Obs.fin
            refine Obs.andThen (keye (by rw [add_tr, ht]) (hs.inst i rfl)) fun ht1 =>
              key ht1 ?_
            rw [run_s, emit_s, hfre]; exact hs.inst i rfl

end Icontract.Re
