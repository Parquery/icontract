/-
  C10 - contracts calling contracted code terminate; only own re-entry goes unchecked.
  `Re.run p .repaired` is the model of the wrappers' in-progress discipline (tied to /repo by the
  correspondence run), `Re.runSpec` the frame-stack reference semantics that never mentions the
  in-progress set.
-/
import IcontractModel.Spec.Bare
import IcontractModel.Spec.Frames
import IcontractModel.Lemmas.ReentrySim
import IcontractModel.Lemmas.ReentryTermination
namespace Icontract.Re

/-- **Only own re-entry goes unchecked.**  For every program whose constructors all carry the
constructor wrapper, every fuel, every command and every pair of corresponding states, the wrappers'
set discipline and the frame semantics produce the same evaluation trace and the same outcome, and
end in corresponding states: a call is made bare exactly when the stack shows an own re-entry. -/
theorem C10_set_discipline_is_frame_semantics (p : Program) (hw : p.allCtorsWrapped = true)
    (fuel : Nat) (s : List Key) (stack : List Frame) (tr : List Ev) (cmd : Cmd) (h : Sim s stack) :
    (run p .repaired fuel ⟨s, tr⟩ cmd).2 = (runSpec p fuel ⟨stack, tr⟩ cmd).2 ∧
    (run p .repaired fuel ⟨s, tr⟩ cmd).1.tr = (runSpec p fuel ⟨stack, tr⟩ cmd).1.tr ∧
    Sim (run p .repaired fuel ⟨s, tr⟩ cmd).1.s (runSpec p fuel ⟨stack, tr⟩ cmd).1.stack := by
  have hobs : Obs (run p .repaired fuel ⟨s, tr⟩ cmd) (runSpec p fuel ⟨stack, tr⟩ cmd) := run_sim hw rfl h
  refine ⟨hobs.1, hobs.2, ?_⟩
  rw [runSpec_stack, run_s]
  exact h

/-- more fuel never changes a finished evaluation -/
theorem C10_fuel_monotone (p : Program) (v : Variant) (fuel : Nat) (st : St) (cmd : Cmd)
    (h : (run p v fuel st cmd).2 ≠ .timeout) :
    run p v (fuel + 1) st cmd = run p v fuel st cmd :=
  run_fuel_mono_le (Nat.le_succ fuel) h

/-- **Termination**, functions: when the bodies make no calls, contracts that call the contracted
functions directly or mutually - any number of times, however deeply - always terminate: there is a
recursion depth (depending on the program only) that no evaluation exceeds, from any state. -/
theorem C10_function_contracts_terminate (p : Program)
    (hb : ∀ d ∈ p.fns, d.body.actions = []) (hc : p.classes = []) :
    ∃ n, ∀ fuel, n ≤ fuel → ∀ (st : St) (a : Action), (run p .repaired fuel st (.act a)).2 ≠ .timeout :=
  terminate_of_rk (rk_two_of_no_calls hb fun c h => by rw [hc] at h; cases h)

/-- a program in which the precondition of its only function calls that function twice -/
def twice : Program :=
  { fns := [{ pre := [{ actions := [.callFn 0, .callFn 0] }], body := {} }] }

/-- the pinned upstream discipline (short-cut inside `try/finally discard`) recursed without bound on it ... -/
theorem C10_upstream_diverged (fuel : Nat) :
    (run twice .upstream fuel {} (.act (.callFn 0))).2 = .timeout :=
  upstream_diverges rfl rfl

/-- ... the repaired one evaluates the condition once and both inner calls bare -/
theorem C10_repaired_terminates_on_twice :
    (run twice .repaired 20 {} (.act (.callFn 0))).2 = .ok ∧
    (run twice .repaired 20 {} (.act (.callFn 0))).1.tr = [.cond 0 0, .body 0, .body 0, .body 0] := by
  decide

/-- the in-progress set is restored by every top-level evaluation that starts from a set not
containing the callee (re-armed after re-entrant evaluations too) -/
theorem C10_state_restored_after_reentrant_call (p : Program) (fuel : Nat) (tr : List Ev) (f : FnId) :
    (run p .repaired fuel ⟨[], tr⟩ (.act (.callFn f))).1.s = [] :=
  run_s

/-- **Termination, in general: contracts add no divergence.**  If the program stripped of its contracts finishes every
action within some recursion depth (from every state), then the contracted program - with preconditions, postconditions
and invariants that call contracted functions, public methods and constructors, directly or mutually, any number of
times - finishes every action within a recursion depth that depends on the program only. -/
theorem C10_contracts_add_no_divergence (p : Program)
    (hbare : ∃ n, ∀ (st : St) (a : Action), (run p.bare .repaired n st (.act a)).2 ≠ .timeout) :
    ∃ N, ∀ fuel, N ≤ fuel → ∀ (st : St) (a : Action), (run p .repaired fuel st (.act a)).2 ≠ .timeout := by
  obtain ⟨n, h⟩ := hbare
  exact terminate_of_rk (rk_of_bare fun a => ⟨default, h default a⟩)

/-- a class whose invariant calls a public method of the same instance (and a contracted function), a function
whose precondition calls the function itself and whose body calls another function, whose postcondition in turn
calls a method and a constructor -/
def mixed : Program :=
  { fns := [ { pre := [{ actions := [.callFn 0] }], body := { actions := [.callFn 1] } },
             { post := [{ actions := [.callMethod 0 0, .construct 0] }] } ],
    classes := [ { invs := [{ actions := [.callMethod 0 0, .callFn 0] }],
                   meths := [{ body := { actions := [.callFn 1] } }] } ],
    instCls := [0] }

/-- every chain of bodies calling actions in `mixed` is shorter than 3 -/
theorem mixed_rk : ∀ a, mixed.rk 3 a := by
  have hfn1 : ∀ {r}, mixed.rk (r + 1) (.callFn 1) := rk_succ_of_bodyOf_nil rfl
  have hcall1 : ∀ {a}, mixed.bodyOf a = [.callFn 1] → mixed.rk 3 a :=
    fun h => (rk_succ_iff h).2 (List.forall_mem_singleton.2 hfn1)
  have hsup : ∀ {i cid r}, mixed.rk (r + 1) (.superInit i cid) := by
    intro i cid r
    match cid with
    | 0 => exact rk_succ_of_bodyOf_nil rfl
    | _ + 1 => exact rk_succ_of_bodyOf_nil rfl
  intro a
  match a with
  | .callFn 0 => exact hcall1 rfl
  | .callFn 1 => exact hfn1
  | .callFn (_ + 2) => exact rk_succ_of_bodyOf_nil rfl
  | .callMethod 0 0 | .callMethod (_ + 1) 0 => exact hcall1 rfl
  | .callMethod 0 (_ + 1) | .callMethod (_ + 1) (_ + 1) => exact rk_succ_of_bodyOf_nil rfl
  | .construct i => exact rk_succ_construct.2 hsup
  | .superInit i cid => exact hsup

/-- the hypothesis of `C10_contracts_add_no_divergence` is satisfiable by a program whose contracts re-enter
(functions, methods and constructors), and the conclusion then holds for it -/
example :
    (∃ n, ∀ (st : St) (a : Action), (run mixed.bare .repaired n st (.act a)).2 ≠ .timeout) ∧
    ∃ N, ∀ fuel, N ≤ fuel → ∀ (st : St) (a : Action), (run mixed .repaired fuel st (.act a)).2 ≠ .timeout :=
  ⟨bare_of_rk mixed_rk, terminate_of_rk mixed_rk⟩

/-- ... concretely: the precondition of function 0 re-enters it (bare), its body calls function 1, whose
postcondition calls the method (invariant: the method again - bare - and function 0 - bare) and the constructor -/
example :
    (run mixed .repaired 40 {} (.act (.callFn 0))).2 = .ok ∧
    (run mixed .repaired 40 {} (.act (.callMethod 0 0))).2 = .ok ∧
    (run mixed .repaired 40 {} (.act (.construct 0))).2 = .ok ∧
    (run mixed.bare .repaired 40 {} (.act (.callFn 0))).2 = .ok := by
  decide +kernel

/-- invariants that call public methods of the same object (and of other objects), constructors included: with bodies
that make no calls there is nothing to assume -/
theorem C10_invariants_terminate (p : Program)
    (hb : ∀ d ∈ p.fns, d.body.actions = [])
    (hm : ∀ c ∈ p.classes, c.init.actions = [] ∧ ∀ m ∈ c.meths, m.body.actions = []) :
    ∃ N, ∀ fuel, N ≤ fuel → ∀ (st : St) (a : Action), (run p .repaired fuel st (.act a)).2 ≠ .timeout :=
  terminate_of_rk (rk_two_of_no_calls hb hm)

end Icontract.Re
