/-
  C02 - postconditions gate every normal return; results and exceptions pass unchanged.
  Statements with short proofs (helper lemmas in Lemmas/).  Quantifiers: every checker, oracle, call.
  The hypothesis `ReachesBodySync` / `ReachesBodyAsync` (Lemmas/Instances.lean) says "the call got as
  far as the body": reserved names free, the precondition phase accepted and the captures (if any
  are due) succeeded with `old`.
-/
import IcontractModel.Lemmas.Post
import IcontractModel.Props.C01
namespace Icontract

/-- If the body raises, that very exception reaches the caller and no postcondition is evaluated:
the trace ends with the body event. -/
theorem C02_sync_body_exception_passes_unchanged (ck : Checker) (o : Oracle) (call : Call)
    (old : List (String × Id)) (h : ReachesBodySync ck o call old) (e : Exc) (hb : o.body = .raises e) :
    (checkedSync ck o call).out = .error (.user e) ∧
    (checkedSync ck o call).trace.getLast? = some (.body call.args call.kwargs) := by
  rw [checkedSync_eq]
  exact checkedG_body_error h.toG hb

/-- If the body returns `v` and every postcondition holds (evaluated against the arguments, `result`
and `OLD`), the caller receives the very object `v`. -/
theorem C02_sync_returns_body_result (ck : Checker) (o : Oracle) (call : Call)
    (old : List (String × Id)) (h : ReachesBodySync ck o call old) (v : Id) (hb : o.body = .ret v)
    (hall : cnfHolds false o ((kwAtBody ck (resolved ck call) old).set "result" (.obj v)) ck.posts) :
    (checkedSync ck o call).out = .ok v := by
  rw [checkedSync_eq]
  exact checkedG_returns (syncHooks_hooksOK o) h.toG hb hall

/-- If some postcondition is falsy (plain truth values), the error of the *first* falsy one is raised
instead of a return. -/
theorem C02_sync_first_falsy_postcondition_raises (ck : Checker) (o : Oracle) (call : Call)
    (old : List (String × Id)) (h : ReachesBodySync ck o call old) (v : Id) (hb : o.body = .ret v)
    (htot : totalOn false o ((kwAtBody ck (resolved ck call) old).set "result" (.obj v)) ck.posts)
    (c : Contract)
    (hc : firstFalsy false o ((kwAtBody ck (resolved ck call) old).set "result" (.obj v)) ck.posts = some c)
    (err : Raised)
    (herr : errorOf o ((kwAtBody ck (resolved ck call) old).set "result" (.obj v)) c = some err) :
    (checkedSync ck o call).out = .error err := by
  rw [checkedSync_eq]
  exact checkedG_post_violated (syncHooks_hooksOK o) h.toG hb htot hc
    (createViolationError_errorOf o _ c err herr)

/-- The caller never gets a normal return unless every postcondition answered truthy (all oracles). -/
theorem C02_sync_return_only_if_posts_hold (ck : Checker) (o : Oracle) (call : Call) (v : Id)
    (hret : (checkedSync ck o call).out = .ok v) :
    o.body = .ret v ∧ ∃ old, cnfHolds false o ((kwAtBody ck (resolved ck call) old).set "result" (.obj v)) ck.posts := by
  rw [checkedSync_eq] at hret
  exact checkedG_return_only_if (syncHooks_hooksOK o) hret

theorem C02_async_body_exception_passes_unchanged (ck : Checker) (o : Oracle) (call : Call)
    (old : List (String × Id)) (h : ReachesBodyAsync ck o call old) (e : Exc) (hb : o.body = .raises e) :
    (checkedAsync ck o call).out = .error (.user e) ∧
    (checkedAsync ck o call).trace.getLast? = some (.body call.args call.kwargs) := by
  rw [checkedAsync_eq]
  exact checkedG_body_error h.toG hb

theorem C02_async_returns_body_result (ck : Checker) (o : Oracle) (call : Call)
    (old : List (String × Id)) (h : ReachesBodyAsync ck o call old) (v : Id) (hb : o.body = .ret v)
    (hall : cnfHolds true o ((kwAtBody ck (resolved ck call) old).set "result" (.obj v)) ck.posts) :
    (checkedAsync ck o call).out = .ok v := by
  rw [checkedAsync_eq]
  exact checkedG_returns (asyncHooks_hooksOK o) h.toG hb hall

theorem C02_async_first_falsy_postcondition_raises (ck : Checker) (o : Oracle) (call : Call)
    (old : List (String × Id)) (h : ReachesBodyAsync ck o call old) (v : Id) (hb : o.body = .ret v)
    (htot : totalOn true o ((kwAtBody ck (resolved ck call) old).set "result" (.obj v)) ck.posts)
    (c : Contract)
    (hc : firstFalsy true o ((kwAtBody ck (resolved ck call) old).set "result" (.obj v)) ck.posts = some c)
    (err : Raised)
    (herr : errorOf o ((kwAtBody ck (resolved ck call) old).set "result" (.obj v)) c = some err) :
    (checkedAsync ck o call).out = .error err := by
  rw [checkedAsync_eq]
  exact checkedG_post_violated (asyncHooks_hooksOK o) h.toG hb htot hc
    (createViolationError_errorOf o _ c err herr)

theorem C02_async_return_only_if_posts_hold (ck : Checker) (o : Oracle) (call : Call) (v : Id)
    (hret : (checkedAsync ck o call).out = .ok v) :
    o.body = .ret v ∧ ∃ old, cnfHolds true o ((kwAtBody ck (resolved ck call) old).set "result" (.obj v)) ck.posts := by
  rw [checkedAsync_eq] at hret
  exact checkedG_return_only_if (asyncHooks_hooksOK o) hret

end Icontract
