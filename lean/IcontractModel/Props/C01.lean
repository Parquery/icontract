/-
  C01 - preconditions gate every call: the body runs iff the effective
  precondition holds.  Property theorems, and `createViolationError_errorOf`, which C02 shares with them;
  the other lemmas live in `Lemmas/`.

  Quantifiers: every checker `ck` (any list of precondition groups of any
  lengths, any snapshots and postconditions around them), every oracle `o`
  (every truth assignment, every way user code may raise), every call.  Sync and
  async wrappers are separate model definitions with separate theorems.
-/
import IcontractModel.Lemmas.Instances
import IcontractModel.Lemmas.ChainPre
namespace Icontract

/-- errors are created without failing (used only for "which error is raised") -/
theorem createViolationError_errorOf (o : Oracle) (kw : Kwargs) (c : Contract) (err : Raised)
    (h : errorOf o kw c = some err) : (createViolationError o c kw).out = .ok err := by
  revert h
  rw [createViolationError_eq]
  unfold errorOf
  have ok : ∀ {x : Raised}, some x = some err → (Except.ok x : Except Raised Raised) = .ok err :=
    fun h => congrArg _ (Option.some.inj h)
  cases c.err with
  | none => cases o.msg c.id with | ok => exact ok | raises e => exact nofun
  | fac args =>
    simp only [selectErrorKwargs_eq]
    cases (missingNames args kw).isEmpty with
    | false => exact nofun
    | true => cases o.fac c.id with | exc e => exact ok | nonExc => exact nofun | raises e => exact nofun
  | cls subBase t =>
    cases subBase with
    | false => exact nofun
    | true => cases o.msg c.id with | ok => exact ok | raises e => exact nofun
  | inst e => exact ok
  | other => exact nofun

/-! ## sync callables -/

/-- **No body without a satisfied group** (all oracles, all checkers). -/
theorem C01_sync_body_only_if_pre_holds (ck : Checker) (o : Oracle) (call : Call)
    (hb : bodyEntered (checkedSync ck o call).trace) :
    dnfHolds false o (resolved ck call) ck.pre := by
  rw [checkedSync_eq] at hb
  exact checkedG_body_dnf (syncHooks_hooksOK o) hb

/-- **No snapshot is captured unless the precondition holds.** -/
theorem C01_sync_capture_only_if_pre_holds (ck : Checker) (o : Oracle) (call : Call)
    (hb : captured (checkedSync ck o call).trace) :
    dnfHolds false o (resolved ck call) ck.pre := by
  rw [checkedSync_eq] at hb
  exact checkedG_capture_dnf (syncHooks_hooksOK o) hb

/-- **If the effective precondition holds the body is entered**, for every truth
assignment (conditions answer plain truth values), reserved names free, captures succeeding. -/
theorem C01_sync_body_if_pre_holds (ck : Checker) (o : Oracle) (call : Call)
    (hvalid : assertResolvedKwargsValid (!ck.posts.isEmpty) (resolved ck call) = none)
    (htot : ∀ g ∈ ck.pre, totalOn false o (resolved ck call) g)
    (hcap : ∃ old, (captureOldSync o (resolved ck call) [] ck.snaps).out = .ok old)
    (hdnf : dnfHolds false o (resolved ck call) ck.pre) :
    bodyEntered (checkedSync ck o call).trace := by
  rw [checkedSync_eq]
  exact checkedG_enters (syncHooks_hooksOK o) hvalid htot hdnf hcap

/-- **Otherwise the violated contract's error is raised**: the error of the first
falsy condition of the last group tried; the body is not entered and nothing is captured. -/
theorem C01_sync_violated (ck : Checker) (o : Oracle) (call : Call)
    (hvalid : assertResolvedKwargsValid (!ck.posts.isEmpty) (resolved ck call) = none)
    (htot : ∀ g ∈ ck.pre, totalOn false o (resolved ck call) g)
    (hno : ¬ dnfHolds false o (resolved ck call) ck.pre) :
    ∃ gl c, ck.pre.getLast? = some gl ∧ firstFalsy false o (resolved ck call) gl = some c ∧
      (∀ err, errorOf o (resolved ck call) c = some err → (checkedSync ck o call).out = .error err) ∧
      ¬ bodyEntered (checkedSync ck o call).trace ∧ ¬ captured (checkedSync ck o call).trace := by
  obtain ⟨gl, c, hgl, hc, herr⟩ := checkedG_pre_violated (syncHooks_hooksOK o) hvalid htot hno
  rw [← checkedSync_eq] at herr
  exact ⟨gl, c, hgl, hc, fun err h => herr err (createViolationError_errorOf o _ c err h),
    fun hb => hno (C01_sync_body_only_if_pre_holds ck o call hb),
    fun hb => hno (C01_sync_capture_only_if_pre_holds ck o call hb)⟩

/-! ## async callables -/

theorem C01_async_body_only_if_pre_holds (ck : Checker) (o : Oracle) (call : Call)
    (hb : bodyEntered (checkedAsync ck o call).trace) :
    dnfHolds true o (resolved ck call) ck.pre := by
  rw [checkedAsync_eq] at hb
  exact checkedG_body_dnf (asyncHooks_hooksOK o) hb

theorem C01_async_capture_only_if_pre_holds (ck : Checker) (o : Oracle) (call : Call)
    (hb : captured (checkedAsync ck o call).trace) :
    dnfHolds true o (resolved ck call) ck.pre := by
  rw [checkedAsync_eq] at hb
  exact checkedG_capture_dnf (asyncHooks_hooksOK o) hb

theorem C01_async_body_if_pre_holds (ck : Checker) (o : Oracle) (call : Call)
    (hvalid : assertResolvedKwargsValid (!ck.posts.isEmpty) (resolved ck call) = none)
    (htot : ∀ g ∈ ck.pre, totalOn true o (resolved ck call) g)
    (hcap : ∃ old, (captureOldAsync o (resolved ck call) [] ck.snaps).out = .ok old)
    (hdnf : dnfHolds true o (resolved ck call) ck.pre) :
    bodyEntered (checkedAsync ck o call).trace := by
  rw [checkedAsync_eq]
  exact checkedG_enters (asyncHooks_hooksOK o) hvalid htot hdnf hcap

theorem C01_async_violated (ck : Checker) (o : Oracle) (call : Call)
    (hvalid : assertResolvedKwargsValid (!ck.posts.isEmpty) (resolved ck call) = none)
    (htot : ∀ g ∈ ck.pre, totalOn true o (resolved ck call) g)
    (hno : ¬ dnfHolds true o (resolved ck call) ck.pre) :
    ∃ gl c, ck.pre.getLast? = some gl ∧ firstFalsy true o (resolved ck call) gl = some c ∧
      (∀ err, errorOf o (resolved ck call) c = some err → (checkedAsync ck o call).out = .error err) ∧
      ¬ bodyEntered (checkedAsync ck o call).trace ∧ ¬ captured (checkedAsync ck o call).trace := by
  obtain ⟨gl, c, hgl, hc, herr⟩ := checkedG_pre_violated (asyncHooks_hooksOK o) hvalid htot hno
  rw [← checkedAsync_eq] at herr
  exact ⟨gl, c, hgl, hc, fun err h => herr err (createViolationError_errorOf o _ c err h),
    fun hb => hno (C01_async_body_only_if_pre_holds ck o call hb),
    fun hb => hno (C01_async_capture_only_if_pre_holds ck o call hb)⟩

/-! ## the wrapper around the checked path, and the chain reading of "effective precondition" -/

/-- A call that is not an own re-entry and uses no reserved keyword runs the checked path. -/
theorem C01_wrapper_runs_checked_path (ck : Checker) (o : Oracle) (s : IdSet) (call : Call)
    (hk : assertNoInvalidKwargs call.kwargs = none) (hs : s.contains ck.fid = false) :
    (callSync ck o s call).1 = checkedSync ck o call ∧ (callAsync ck o s call).1 = checkedAsync ck o call := by
  rw [callSync_eq hs, callAsync_eq hs, hk]
  exact ⟨rfl, rfl⟩

/-- A call with a reserved keyword never reaches user code. -/
theorem C01_reserved_keyword_rejected (ck : Checker) (o : Oracle) (s : IdSet) (call : Call) (e : Raised)
    (hk : assertNoInvalidKwargs call.kwargs = some e) :
    (callSync ck o s call).1.trace = [] ∧ (callSync ck o s call).1.out = .error e ∧
    (callAsync ck o s call).1.trace = [] ∧ (callAsync ck o s call).1.out = .error e := by
  rw [callSync_of_invalid hk, callAsync_of_invalid hk]
  exact ⟨rfl, rfl, rfl, rfl⟩

/-- Along an override chain the effective precondition is: *some class that declares
preconditions has all of its own conditions truthy* (own conjoined, inherited groups as
alternatives); a chain that declares none accepts every call. -/
theorem C01_chain_effective_precondition (isAsync : Bool) (o : Oracle) (kw : Kwargs) (levels : List Level) :
    dnfHolds isAsync o kw (chainPre levels) ↔
      (∀ l ∈ levels, l.pre = []) ∨
      ∃ l ∈ levels, l.pre ≠ [] ∧ ∀ c ∈ l.pre, condTruthy isAsync o kw c = true := by
  unfold dnfHolds
  rw [chainPre_eq_nil]
  refine or_congr Iff.rfl ?_
  simp only [mem_chainPre]
  exact ⟨fun ⟨g, ⟨l, hl, hne, hg⟩, hall⟩ => ⟨l, hl, hne, hg ▸ hall⟩,
    fun ⟨l, hl, hne, hall⟩ => ⟨_, ⟨l, hl, hne, rfl⟩, hall⟩⟩

/-! ## non-vacuity: concrete cases meeting the hypotheses -/

private def exC (i : Nat) : Contract := { id := i, args := ["x"], mandatory := ["x"], err := .cls true true }
private def exCk : Checker := { fid := 1, pre := [[exC 1, exC 2], [exC 3]], paramNames := ["x"] }
private def exO (t1 t2 t3 : Truth) : Oracle :=
  { cond := fun i => if i == 1 then .val 101 t1 else if i == 2 then .val 102 t2 else .val 103 t3,
    capture := fun _ => .val 0 .truthy, body := .ret 7, fac := fun _ => .nonExc, msg := fun _ => .ok }

/-- a two-group checker, second group holds: the body is entered (hypotheses of
`C01_sync_body_if_pre_holds` are met and its conclusion is observed by evaluation) -/
example : (checkedSync exCk (exO .truthy .falsy .truthy) { args := [10] }).trace.any Event.isBody = true := by
  decide

/-- no group holds: error of the first falsy condition of the last group, no body -/
example : (match (checkedSync exCk (exO .truthy .falsy .falsy) { args := [10] }).out with
            | .error (.viol 3 true) => true | _ => false) = true
    ∧ (checkedSync exCk (exO .truthy .falsy .falsy) { args := [10] }).trace.any Event.isBody = false := by
  decide

end Icontract
