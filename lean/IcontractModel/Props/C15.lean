/-
  C15 - disabled contracts are absent; enabled ones do not depend on interpreter mode.
  The quantifier is a finite table (4 decorators x 4 `enabled` settings x 3 interpreter
  modes x 3 states of ICONTRACT_SLOW): the theorems below cover the *whole* table by case
  analysis on the arguments, every row closed by evaluation or `simp`, which is a proof, not a sample.
-/
import IcontractModel.Config
import IcontractModel.Decor
namespace Icontract

/-- A decorator that is not enabled returns the very object, adds no attribute, stores no condition. -/
theorem C15_disabled_is_absent (k : DecoKind) :
    applyDecorator k false = { sameObject := true, attrsAdded := false, conditionStored := false } := by
  cases k <;> rfl

/-- when exactly is a decorator enabled: the full table -/
theorem C15_enabled_table (m : Mode) (e : EnvSlow) (a : EnabledArg) :
    enabledValue m e a = true ↔
      (a = .explicitTrue ∨ (a = .dflt ∧ m = .normal) ∨ (a = .slow ∧ m = .normal ∧ e = .nonEmpty)) := by
  -- only `enabled=SLOW` looks at the environment, only it and the default at the interpreter mode
  cases a with
  | dflt => cases m <;> simp [enabledValue, Mode.debug]
  | explicitTrue => simp [enabledValue]
  | explicitFalse => simp [enabledValue]
  | slow => cases m <;> cases e <;> simp [enabledValue, slowFlag, Mode.debug]

/-- the default is off under `-O`/`-OO`; SLOW contracts are off unless ICONTRACT_SLOW is non-empty in a
non-optimised interpreter -/
theorem C15_defaults (m : Mode) (e : EnvSlow) :
    (m ≠ .normal → enabledValue m e .dflt = false ∧ enabledValue m e .slow = false) ∧
    (e ≠ .nonEmpty → enabledValue m e .slow = false) ∧
    enabledValue m e .explicitFalse = false := by
  refine ⟨fun hm => ?_, fun he => ?_, rfl⟩
  · cases m
    · exact absurd rfl hm
    · exact ⟨rfl, rfl⟩
    · exact ⟨rfl, rfl⟩
  · cases e
    · cases m <;> rfl
    · cases m <;> rfl
    · exact absurd rfl he

/-- an explicitly enabled contract is enabled in every interpreter mode and environment -/
theorem C15_explicit_enable_ignores_mode (m m' : Mode) (e e' : EnvSlow) (k : DecoKind) :
    enabledValue m e .explicitTrue = enabledValue m' e' .explicitTrue ∧
    applyDecorator k (enabledValue m e .explicitTrue) = applyDecorator k (enabledValue m' e' .explicitTrue) := by
  simp [enabledValue]

/-- disabled construction validates nothing and builds nothing, for every decorator -/
theorem C15_disabled_construction_is_inert (err : ErrArg) (cond : CondInfo) (name : Option String) (args : List String) :
    requireInit false err = .ok false ∧ ensureInit false err = .ok false ∧
    invariantInit false err cond = .ok false ∧ snapshotInit false name args = .ok none := by
  simp [requireInit, ensureInit, invariantInit, snapshotInit]

/-- a library assertion whose condition holds never changes behaviour between modes -/
theorem C15_true_asserts_are_mode_independent (m m' : Mode) (cond : Bool) (h : cond = true) :
    assertStep m cond = assertStep m' cond := by
  subst h; cases m <;> cases m' <;> rfl

end Icontract
