/-
  C05 - contracts observe the same argument values the body receives.  Statements with short proofs.
  `pyAccepts` / `pyValue` (Spec/PyBind.lean) are CPython's binding, validated against real
  calls on every run; `resolveCall` is the library's `kwargs_from_call` on what
  `decorate_with_checker` pre-computes from the signature.
-/
import IcontractModel.Spec.PyBind
import IcontractModel.Spec.Post
import IcontractModel.Lemmas.BindLemmas
import IcontractModel.Lemmas.Leaves
namespace Icontract

/-- **Every non-variadic parameter** (positional-only, positional-or-keyword, keyword-only; explicit
or defaulted) of every well-formed signature is resolved, for every call Python accepts, to exactly
the object the body receives. -/
theorem C05_nonvariadic_parameter_is_body_value (sig : Signature) (args : List Id) (kwargs : List (String × Id))
    (hwf : sig.wf = true) (hacc : pyAccepts sig args kwargs = true)
    (hres : ∀ p ∈ sig, p.name ≠ "_ARGS" ∧ p.name ≠ "_KWARGS")
    (p : Param) (hp : p ∈ sig) (hnv : p.isVariadic = false) :
    (resolveCall sig args kwargs).get? p.name = (pyValue sig args kwargs p).map Val.obj ∧
    (pyValue sig args kwargs p).isSome = true := by
  have _ := hres  -- not needed: an accepted call gives `p` a value, which overwrites any placeholder
  exact resolveCall_nonvariadic hwf hacc hp hnv

/-- `_ARGS` is the tuple of the call's positional arguments and `_KWARGS` the dict of its keyword
arguments (no parameter or keyword may be so named: C19). -/
theorem C05_args_kwargs_placeholders (sig : Signature) (args : List Id) (kwargs : List (String × Id))
    (hres : ∀ p ∈ sig, p.name ≠ "_ARGS" ∧ p.name ≠ "_KWARGS")
    (hkw : ∀ kv ∈ kwargs, kv.1 ≠ "_ARGS" ∧ kv.1 ≠ "_KWARGS") :
    (resolveCall sig args kwargs).get? "_ARGS" = some (.tuple args) ∧
    (resolveCall sig args kwargs).get? "_KWARGS" = some (.dict kwargs) := by
  constructor
  · rw [resolveCall_get?_of_not_mem sig args kwargs "_ARGS" (fun p hp => (hres p hp).1) (fun kv h => (hkw kv h).1)]
    rfl
  · rw [resolveCall_get?_of_not_mem sig args kwargs "_KWARGS" (fun p hp => (hres p hp).2) (fun kv h => (hkw kv h).2)]
    rfl

/-- a name that is neither a parameter, nor a keyword of the call, nor a placeholder is not resolved -/
theorem C05_unprovided_name_is_unresolved (sig : Signature) (args : List Id) (kwargs : List (String × Id))
    (n : String) (h1 : ∀ p ∈ sig, p.name ≠ n) (h2 : ∀ kv ∈ kwargs, kv.1 ≠ n)
    (h3 : n ≠ "_ARGS" ∧ n ≠ "_KWARGS") :
    (resolveCall sig args kwargs).has n = false := by
  rw [Kwargs.has_eq_isSome, resolveCall_get?_of_not_mem sig args kwargs n h1 h2]
  simp [Kwargs.get?, beq_false_of_ne (Ne.symm h3.1), beq_false_of_ne (Ne.symm h3.2)]

/-- ... and a condition / capture / error factory asking for an unresolved name makes the call fail
with a TypeError naming it; nothing is evaluated with a wrong value (the selection raises before
the callable is called: its trace is empty). -/
theorem C05_missing_name_is_type_error (kw : Kwargs) (n : String) (hn : kw.has n = false) :
    (∀ c : Contract, n ∈ c.mandatory →
      ∃ ns, n ∈ ns ∧ selectConditionKwargs c kw = ⟨[], .error (.typeErr (.missingCondArgs c.id ns))⟩) ∧
    (∀ s : Snapshot, n ∈ s.args →
      ∃ ns, n ∈ ns ∧ selectCaptureKwargs s kw = ⟨[], .error (.typeErr (.missingCaptureArgs s.id ns))⟩) ∧
    (∀ (cid : CId) (errArgs : List String), n ∈ errArgs →
      ∃ ns, n ∈ ns ∧ selectErrorKwargs cid errArgs kw = ⟨[], .error (.typeErr (.missingErrorArgs cid ns))⟩) := by
  have hmiss : ∀ wanted : List String, n ∈ wanted →
      n ∈ missingNames wanted kw ∧ ¬ (missingNames wanted kw).isEmpty = true := by
    intro wanted hw
    have hm : n ∈ missingNames wanted kw := by
      unfold missingNames
      exact List.mem_filter.mpr ⟨hw, by simp [hn]⟩
    exact ⟨hm, fun h => by rw [List.isEmpty_iff.mp h] at hm; cases hm⟩
  exact ⟨fun c hc => ⟨_, (hmiss _ hc).1, (selectConditionKwargs_eq c kw).trans (if_neg (hmiss _ hc).2)⟩,
    fun s hs => ⟨_, (hmiss _ hs).1, (selectCaptureKwargs_eq s kw).trans (if_neg (hmiss _ hs).2)⟩,
    fun cid args hc => ⟨_, (hmiss _ hc).1, (selectErrorKwargs_eq cid args kw).trans (if_neg (hmiss _ hc).2)⟩⟩

/-- what a callable receives is exactly the restriction of the resolved arguments to the names it asks
for: every received pair is a resolved pair, and every resolved pair with an asked name is received -/
theorem C05_selection_is_restriction (c : Contract) (kw sel : Kwargs)
    (h : (selectConditionKwargs c kw).out = .ok sel) :
    sel = kw.restrict c.args ∧ (∀ p ∈ sel, p.1 ∈ c.args ∧ p ∈ kw) ∧ (∀ p ∈ kw, p.1 ∈ c.args → p ∈ sel) := by
  have hsel : sel = kw.restrict c.args := by
    rw [selectConditionKwargs_eq] at h
    by_cases hm : (missingNames c.mandatory kw).isEmpty = true
    · rw [if_pos hm] at h
      exact (Except.ok.inj h).symm
    · rw [if_neg hm] at h
      cases h
  subst hsel
  exact ⟨rfl, fun p hp => (Kwargs.mem_restrict.mp hp).symm, fun p hp hn => Kwargs.mem_restrict.mpr ⟨hp, hn⟩⟩

/-- postconditions additionally get `result` and `OLD` -/
theorem C05_postconditions_get_result_and_old (ck : Checker) (kw : Kwargs) (old : List (String × Id)) (r : Id)
    (h : (!ck.posts.isEmpty && !ck.snaps.isEmpty) = true) :
    (postKwargs ck kw old r).get? "result" = some (.obj r) ∧ (postKwargs ck kw old r).get? "OLD" = some (.old old) := by
  unfold postKwargs
  rw [if_pos h]
  -- `simp` tells two string literals apart at the first differing character; `decide` is slow to check here
  exact ⟨Kwargs.get?_set_self, (Kwargs.get?_set_ne (by simp)).trans Kwargs.get?_set_self⟩

end Icontract
