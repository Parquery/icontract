/-
  C19 - misuse is rejected at the earliest point with the documented error.
  Decision tables stated outright over the model of the decorators' construction /
  application and of the wrapper's first lines.
-/
import IcontractModel.Lemmas.Instances
import IcontractModel.Decor
namespace Icontract

/-- a function with a parameter named `_ARGS` or `_KWARGS` (of any kind) is rejected with TypeError
when a checker is created for it -/
theorem C19_reserved_parameter_rejected_at_decoration (sig : Signature) :
    (∃ why, checkReservedParams sig = .error (.typeError why)) ↔
      (∃ p ∈ sig, p.name = "_ARGS" ∨ p.name = "_KWARGS") := by
  have key : ∀ s : String, (sig.map (·.name)).contains s = true ↔ ∃ p ∈ sig, p.name = s := fun s => by
    rw [List.contains_iff_mem, List.mem_map]
  unfold checkReservedParams
  by_cases h1 : (sig.map (·.name)).contains "_ARGS" = true
  · rw [if_pos h1]
    obtain ⟨p, hp, hn⟩ := (key _).mp h1
    exact ⟨fun _ => ⟨p, hp, .inl hn⟩, fun _ => ⟨_, rfl⟩⟩
  · rw [if_neg h1]
    by_cases h2 : (sig.map (·.name)).contains "_KWARGS" = true
    · rw [if_pos h2]
      obtain ⟨p, hp, hn⟩ := (key _).mp h2
      exact ⟨fun _ => ⟨p, hp, .inr hn⟩, fun _ => ⟨_, rfl⟩⟩
    · rw [if_neg h2]
      exact ⟨fun ⟨_, h⟩ => (by cases h), fun ⟨p, hp, hn⟩ =>
        hn.elim (fun hn => absurd ((key _).mpr ⟨p, hp, hn⟩) h1) (fun hn => absurd ((key _).mpr ⟨p, hp, hn⟩) h2)⟩

/-- a call with a keyword named `_ARGS` / `_KWARGS` fails with TypeError before any user code runs
and without touching the suspension state -/
theorem C19_reserved_keyword_rejected_at_call (ck : Checker) (o : Oracle) (s : IdSet) (call : Call)
    (h : ∃ p ∈ call.kwargs, p.1 = "_ARGS" ∨ p.1 = "_KWARGS") :
    ∃ n, (callSync ck o s call) = (⟨[], .error (.typeErr (.reservedKwarg n))⟩, s) ∧
         (callAsync ck o s call) = (⟨[], .error (.typeErr (.reservedKwarg n))⟩, s) := by
  obtain ⟨n, hk⟩ : ∃ n, assertNoInvalidKwargs call.kwargs = some (.typeErr (.reservedKwarg n)) := by
    obtain ⟨p, hp, hn⟩ := h
    unfold assertNoInvalidKwargs
    by_cases h1 : (call.kwargs.any fun p => p.1 == "_ARGS") = true
    · exact ⟨"_ARGS", if_pos h1⟩
    · have h2 : (call.kwargs.any fun p => p.1 == "_KWARGS") = true := by
        rcases hn with hn | hn
        · exact absurd (List.any_eq_true.mpr ⟨p, hp, by rw [hn, beq_self_eq_true]⟩) h1
        · exact List.any_eq_true.mpr ⟨p, hp, by rw [hn, beq_self_eq_true]⟩
      exact ⟨"_KWARGS", (if_neg h1).trans (if_pos h2)⟩
  exact ⟨n, callSync_of_invalid hk, callAsync_of_invalid hk⟩

/-- a value bound to `result` or `OLD` on a function with postconditions: TypeError before any site -/
theorem C19_result_or_old_argument_rejected (ck : Checker) (o : Oracle) (call : Call)
    (hp : ck.posts ≠ [])
    (h : (resolved ck call).has "result" = true ∨ (resolved ck call).has "OLD" = true) :
    ∃ n, (checkedSync ck o call) = ⟨[], .error (.typeErr (.reservedResolved n))⟩ ∧
         (checkedAsync ck o call) = ⟨[], .error (.typeErr (.reservedResolved n))⟩ := by
  have hne : (!ck.posts.isEmpty) = true := congrArg not (List.isEmpty_eq_false_iff.mpr hp)
  obtain ⟨n, hv⟩ : ∃ n, assertResolvedKwargsValid (!ck.posts.isEmpty) (resolved ck call) =
      some (.typeErr (.reservedResolved n)) := by
    unfold assertResolvedKwargsValid
    rw [hne, if_pos rfl]
    by_cases h1 : (resolved ck call).has "result" = true
    · exact ⟨"result", if_pos h1⟩
    · exact ⟨"OLD", (if_neg h1).trans (if_pos (h.resolve_left h1))⟩
  exact ⟨n, (checkedSync_eq ck o call).trans (checkedG_of_invalid hv),
    (checkedAsync_eq ck o call).trans (checkedG_of_invalid hv)⟩

/-- invariant conditions: coroutine functions and conditions with mandatory parameters other than
`self` are rejected with ValueError when `invariant(...)` is constructed -/
theorem C19_invariant_condition_validated (err : ErrArg) (cond : CondInfo)
    (herr : validateErrorInvariant err = .ok ()) :
    (invariantInit true err cond = .ok true ↔
      (cond.coroFn = false ∧ (cond.mandatory = [] ∨ cond.mandatory = ["self"]))) ∧
    (invariantInit true err cond ≠ .ok true → ∃ why, invariantInit true err cond = .error (.valueError why)) := by
  unfold invariantInit
  simp only [Bool.not_true, Bool.false_eq_true, if_false, herr, Bind.bind, Except.bind]
  by_cases hc : cond.coroFn = true
  · simp [hc]
  · simp only [hc]
    cases hm : cond.mandatory with
    | nil => simp [Pure.pure, Except.pure]
    | cons a rest =>
      by_cases hs : (a :: rest) = ["self"]
      · simp [hs, Pure.pure, Except.pure]
      · simp [hs]

/-- snapshots: an unnamed capture with zero or several parameters is a ValueError; with exactly one
parameter the snapshot is named after it -/
theorem C19_snapshot_name_rules (name : Option String) (args : List String) :
    (snapshotName name args = match name, args with
      | some n, _ => .ok n
      | none, [a] => .ok a
      | none, [] => .error (.valueError "You must name a snapshot if no argument was given in the capture function.")
      | none, _ :: _ :: _ => .error (.valueError "You must name a snapshot if multiple arguments were given in the capture function.")) := by
  cases name with
  | some n => rfl
  | none =>
    cases args with
    | nil => rfl
    | cons a rest => cases rest <;> rfl

/-- a snapshot that is not preceded by a postcondition (no checker below it, or a checker with
preconditions only), or that re-uses a name, is a ValueError; otherwise it is appended; a disabled
snapshot changes nothing -/
theorem C19_snapshot_application (n : String) (below : Below) :
    snapshotApply none below = .ok below ∧
    (snapshotApply (some n) below = .ok { below with snapNames := below.snapNames ++ [n] } ↔
      (below.hasChecker = true ∧ below.nPosts ≠ 0 ∧ n ∉ below.snapNames)) ∧
    (¬ (below.hasChecker = true ∧ below.nPosts ≠ 0 ∧ n ∉ below.snapNames) →
      ∃ why, snapshotApply (some n) below = .error (.valueError why)) := by
  have h1 : (!below.hasChecker || below.nPosts == 0) = true ↔ ¬ (below.hasChecker = true ∧ below.nPosts ≠ 0) := by
    cases below.hasChecker <;> simp
  refine ⟨rfl, ?_⟩
  unfold snapshotApply
  simp only []
  by_cases c1 : (!below.hasChecker || below.nPosts == 0) = true
  · rw [if_pos c1]
    exact ⟨⟨fun h => (by cases h), fun h => absurd ⟨h.1, h.2.1⟩ (h1.mp c1)⟩, fun _ => ⟨_, rfl⟩⟩
  · rw [if_neg c1]
    by_cases c2 : below.snapNames.contains n = true
    · rw [if_pos c2]
      exact ⟨⟨fun h => (by cases h), fun h => absurd (List.contains_iff_mem.mp c2) h.2.2⟩, fun _ => ⟨_, rfl⟩⟩
    · have := Decidable.not_not.mp (mt h1.mpr c1)
      have hgood := And.intro this.1 (And.intro this.2 (mt List.contains_iff_mem.mpr c2))
      rw [if_neg c2]
      exact ⟨⟨fun _ => hgood, fun _ => rfl⟩, fun h => absurd hgood h⟩

end Icontract
