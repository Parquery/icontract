/-
  C09 - the `error` argument decides exactly what a violation raises.
  Statements + short proofs.  `createViolationError` takes only the oracle, the
  contract and the resolved keyword arguments: role (pre/post/invariant), callable kind
  and sync/async are not inputs of the dispatch at all.
-/
import IcontractModel.Lemmas.Instances
import IcontractModel.Lemmas.Kwargs
import IcontractModel.Decor
namespace Icontract
open Res

/-- no `error`: ViolationError carrying the generated message; the message is built exactly once -/
theorem C09_default_is_violation_error (o : Oracle) (c : Contract) (kw : Kwargs)
    (he : c.err = .none) (hm : o.msg c.id = .ok) :
    (createViolationError o c kw).out = .ok (.viol c.id true) ∧
    (createViolationError o c kw).trace = [.msg c.id] := by
  rw [createViolationError_eq, he, hm]
  exact ⟨rfl, rfl⟩

/-- an exception class: instantiated with the generated message -/
theorem C09_class_is_instantiated_with_message (o : Oracle) (c : Contract) (kw : Kwargs) (t : Bool)
    (he : c.err = .cls true t) (hm : o.msg c.id = .ok) :
    (createViolationError o c kw).out = .ok (.viol c.id t) ∧
    (createViolationError o c kw).trace = [.msg c.id] := by
  rw [createViolationError_eq, he, hm]
  exact ⟨rfl, rfl⟩

/-- an exception instance: raised as that same object, nothing else happens -/
theorem C09_instance_is_raised_as_is (o : Oracle) (c : Contract) (kw : Kwargs) (e : Exc)
    (he : c.err = .inst e) :
    (createViolationError o c kw).out = .ok (.user e) ∧ (createViolationError o c kw).trace = [] := by
  rw [createViolationError_eq, he]
  exact ⟨rfl, rfl⟩

/-- a factory: called exactly once, with exactly the named subset of the call's values; the
exception it returns is the error; a non-exception is a TypeError; what it raises surfaces -/
theorem C09_factory_called_once_with_named_subset (o : Oracle) (c : Contract) (kw : Kwargs)
    (args : List String) (he : c.err = .fac args) (hm : (missingNames args kw).isEmpty = true) :
    (createViolationError o c kw).trace = [.errFac c.id (kw.restrict args)] ∧
    (createViolationError o c kw).out =
      (match o.fac c.id with
       | .exc e => .ok (.user e)
       | .nonExc => .error (.typeErr (.factoryNotException c.id))
       | .raises e => .error (.user e)) := by
  rw [createViolationError_eq, he]
  simp only [selectErrorKwargs_eq, hm]
  exact ⟨rfl, rfl⟩

/-- a factory naming a value the call does not provide: TypeError naming it, the factory is not called -/
theorem C09_factory_missing_name_is_type_error (o : Oracle) (c : Contract) (kw : Kwargs)
    (args : List String) (he : c.err = .fac args) (hm : (missingNames args kw).isEmpty = false) :
    (createViolationError o c kw).out = .error (.typeErr (.missingErrorArgs c.id (missingNames args kw))) ∧
    (createViolationError o c kw).trace = [] := by
  rw [createViolationError_eq, he]
  simp only [selectErrorKwargs_eq, hm]
  exact ⟨rfl, rfl⟩

/-- the named subset is exact: only asked names, each with the call's value -/
theorem C09_named_subset_is_exact (kw : Kwargs) (names : List String) :
    (∀ p ∈ kw.restrict names, p.1 ∈ names ∧ p ∈ kw) ∧
    (∀ p ∈ kw, p.1 ∈ names → p ∈ kw.restrict names) :=
  ⟨fun _ hp => (Kwargs.mem_restrict.mp hp).symm, fun _ hp hn => Kwargs.mem_restrict.mpr ⟨hp, hn⟩⟩

/-- decoration time: exactly none / exception class / exception instance / function / method are
accepted, everything else is a ValueError - identically for the three hand-copied validations -/
theorem C09_error_argument_validation (e : ErrArg) :
    (validateErrorRequire e = .ok () ↔
      (e = .none ∨ e = .excClass ∨ e = .excInstance ∨ e = .function ∨ e = .method)) ∧
    ((∃ why, validateErrorRequire e = .error (.valueError why)) ↔
      (e = .otherClass ∨ e = .callableObject ∨ e = .otherValue)) ∧
    validateErrorEnsure e = validateErrorRequire e ∧
    validateErrorInvariant e = validateErrorRequire e := by
  cases e <;> simp [validateErrorRequire, validateErrorEnsure, validateErrorInvariant]

/-- a disabled decorator validates nothing; an enabled one rejects a bad `error` at construction -/
theorem C09_validation_happens_at_construction (e : ErrArg) :
    requireInit false e = .ok false ∧ ensureInit false e = .ok false ∧
    (requireInit true e = (validateErrorRequire e).map (fun _ => true)) ∧
    (ensureInit true e = (validateErrorEnsure e).map (fun _ => true)) := by
  refine ⟨rfl, rfl, ?_, ?_⟩
  · unfold requireInit
    cases validateErrorRequire e <;> rfl
  · unfold ensureInit
    cases validateErrorEnsure e <;> rfl

end Icontract
