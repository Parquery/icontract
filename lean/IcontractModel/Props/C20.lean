/-
  C20 - violation messages are deterministic and bounded.
-/
import IcontractModel.Represent
import IcontractModel.Lemmas.ReprPairs
namespace Icontract.Ex

/-- **Independent of keyword-argument order**: the value lines are a function of the *set* of resolved
arguments - any permutation of the (distinct-keyed) keyword arguments gives the identical list of lines. -/
theorem C20_independent_of_argument_order (aRepr : Val → String) (lines : List (String × Val))
    (condParams : List String) (kw kw' : List (String × Val))
    (hp : kw.Perm kw') (hd : (kw.map (·.1)).Nodup) :
    reprValues aRepr lines condParams kw = reprValues aRepr lines condParams kw' := by
  have hs : (selectKwargs condParams kw).mergeSort keyLe = (selectKwargs condParams kw').mergeSort keyLe :=
    mergeSort_keyLe_eq_of_perm (hp.filter _) (selectKwargs_keys_nodup condParams hd)
  simp only [reprValues, reprPairs, addArguments, hs]

/-- **Sorted by expression text** -/
theorem C20_lines_sorted_by_text (lines : List (String × Val)) (condParams : List String) (kw : List (String × Val)) :
    (reprPairs lines condParams kw).Pairwise (fun a b => a.1 ≤ b.1) := by
  have h := pairwise_mergeSort_keyLe (addArguments lines (selectKwargs condParams kw))
  simpa only [reprPairs, keyLe, decide_eq_true_eq] using h

/-- **Every value is rendered through the contract's own `a_repr`**, so its size limits apply to every line -/
theorem C20_rendered_through_a_repr (aRepr : Val → String) (lines : List (String × Val))
    (condParams : List String) (kw : List (String × Val)) (L : Nat) (hL : ∀ v, (aRepr v).length ≤ L) :
    ∀ line ∈ reprValues aRepr lines condParams kw,
      ∃ k v, line = k ++ " was " ++ aRepr v ∧ line.length ≤ k.length + 5 + L ∧
        ((k, v) ∈ lines.map id ∨ (k, v) ∈ kw ∨ ∃ v', (k, v') ∈ lines) := by
  intro line hline
  obtain ⟨⟨k, v⟩, hp, rfl⟩ := List.mem_map.mp hline
  refine ⟨k, v, rfl, ?_, ?_⟩
  · have h5 : " was ".length = 5 := String.length_ofList (l := [' ', 'w', 'a', 's', ' '])
    rw [String.length_append, String.length_append, h5]
    exact Nat.add_le_add_left (hL v) _
  · rcases mem_reprPairs hp with h | ⟨h, _, _⟩
    · exact Or.inl ((List.map_id lines).symm ▸ h)
    · exact Or.inr (Or.inl (List.mem_filter.mp h).1)

/-- **Classes, functions, methods, modules, builtins among the arguments are left out**, and so are
`_ARGS` / `_KWARGS` unless the condition names them (unless an expression line already shows that text) -/
theorem C20_unrepresentable_and_placeholders_left_out (lines : List (String × Val)) (condParams : List String)
    (kw : List (String × Val)) (k : String) (v : Val)
    (h : (k, v) ∈ reprPairs lines condParams kw) (hnot : ∀ v', (k, v') ∉ lines) :
    representable v = true ∧ (k, v) ∈ kw ∧
    (k = "_ARGS" → condParams.contains "_ARGS" = true) ∧ (k = "_KWARGS" → condParams.contains "_KWARGS" = true) := by
  rcases mem_reprPairs h with h | ⟨hsel, hr, _⟩
  · exact absurd h (hnot v)
  · exact ⟨hr, mem_selectKwargs.mp hsel⟩

/-- the message depends on nothing else: same expression lines, same parameters, same arguments, same `a_repr`
give the same lines (no hidden state from earlier calls, no hash order) -/
theorem C20_no_hidden_state (aRepr aRepr' : Val → String) (lines : List (String × Val)) (condParams : List String)
    (kw : List (String × Val)) (h : ∀ v, aRepr v = aRepr' v) :
    reprValues aRepr lines condParams kw = reprValues aRepr' lines condParams kw := by
  rw [funext h]

end Icontract.Ex
