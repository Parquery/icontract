/-
  C12 - concurrent callers never disable each other's checks.
  `Conc.step` runs one task from one suspension point to the next; a schedule is any list of operations:
  a task runs, a task is created in a COPY of another task's current context (asyncio tasks, `to_thread`,
  `copy_context().run`), a plain thread is created with an empty context.  A call goes through the function
  wrapper (preconditions - body - postconditions), the public-method wrapper (invariants - body - invariants)
  or the constructor wrapper (body - invariants).  Under the repaired discipline (`perContext`: an immutable
  value bound per context, restored on exit) every context has its own binding, whatever it was copied from.
  The conditions the statements speak of are defined with their lemmas in Lemmas/ConcLemmas.lean: `WellFormed`
  (the start), `copiesOutsideChecks` (every copy made while the parent is between two calls or in a function's body).
-/
import IcontractModel.Conc
import IcontractModel.Lemmas.ConcLemmas
namespace Icontract.Conc

/-- the world a process starts in is well-formed, whatever the programs -/
theorem C12_start_is_well_formed (ps : List (List CallSpec)) : WellFormed (World.start ps) := by
  refine ⟨?_, ?_, ?_, ?_⟩
  · intro i j ti tj hi hj hij
    obtain ⟨_, _, rfl⟩ := start_tasks hi
    obtain ⟨_, _, rfl⟩ := start_tasks hj
    exact hij
  · intro i ti hi
    obtain ⟨p, hp, rfl⟩ := start_tasks hi
    have hlen : (World.start ps).sets.length = ps.length := List.length_map _
    rw [hlen]
    exact (List.getElem?_eq_some_iff.mp hp).1
  · intro i ti hi
    obtain ⟨_, _, rfl⟩ := start_tasks hi
    exact ⟨rfl, rfl, rfl⟩
  · intro i ti _ c _
    rw [start_getSet]
    rfl

/-- **The verdict of a call depends only on that call**: for every set of tasks, every program of
calls (of functions, public methods and constructors - on shared functions and shared instances), and EVERY
schedule of runs and task creations in which contexts are copied outside the evaluations they would disable,
the verdicts a task has produced so far are exactly the verdicts the property demands for the calls it has
completed - in order - and the calls still to do are the rest of its program. -/
theorem C12_verdicts_independent_of_schedule (w : World) (hw : WellFormed w) (ops : List Op)
    (hs : safeOps .perContext w ops = true)
    (i : Nat) (t : Conc.Task) (h : (runOps .perContext w ops).tasks[i]? = some t) :
    t.verdicts = (t.program.take t.verdicts.length).map CallSpec.expected ∧
    t.program = t.program.take t.verdicts.length ++ t.calls := by
  obtain ⟨_, hT⟩ := exists_TInv_of_safeOps hw hs h
  exact hT.verdicts_take

/-- no call is ever made on the unchecked (re-entrant) path -/
theorem C12_no_call_skips_its_checks (w : World) (hw : WellFormed w) (ops : List Op)
    (hs : safeOps .perContext w ops = true)
    (i : Nat) (t : Conc.Task) (h : (runOps .perContext w ops).tasks[i]? = some t) :
    ∀ n e, t.pc ≠ .inBody n false e := by
  obtain ⟨_, hT⟩ := exists_TInv_of_safeOps hw hs h
  exact hT.checked

/-- a task scheduled often enough completes its whole program with exactly the demanded verdicts,
whatever the other tasks do in between -/
theorem C12_completes_with_expected_verdicts (w : World) (hw : WellFormed w) (ops : List Op)
    (hs : safeOps .perContext w ops = true)
    (i : Nat) (t : Conc.Task) (h : (runOps .perContext w ops).tasks[i]? = some t) (hdone : t.calls = []) :
    t.verdicts = t.program.map CallSpec.expected := by
  obtain ⟨_, hT⟩ := exists_TInv_of_safeOps hw hs h
  obtain ⟨done, hd, hv⟩ := hT.prog
  rw [hd, hdone, List.append_nil]
  exact hv

/-- **Inheriting a context after the parent has executed contracted code changes nothing**: from the start
of a process, contexts copied while their parent is between two calls (or in the body of a contracted
function) - however much contracted code the parent ran before - are always copied safely ... -/
theorem C12_copies_outside_checks_are_safe (ps : List (List CallSpec)) (ops : List Op)
    (h : copiesOutsideChecks .perContext (World.start ps) ops = true) :
    safeOps .perContext (World.start ps) ops = true :=
  safeOps_of_copiesOutsideChecks (Inv.init (C12_start_is_well_formed ps) (start_getSet ps)) h

/-- ... hence every task - created at the start, as a plain thread, or in a copied context - gets exactly the
verdicts of its own calls -/
theorem C12_inherited_contexts_do_not_matter (ps : List (List CallSpec)) (ops : List Op)
    (h : copiesOutsideChecks .perContext (World.start ps) ops = true)
    (i : Nat) (t : Conc.Task) (ht : (runOps .perContext (World.start ps) ops).tasks[i]? = some t) :
    t.verdicts = (t.program.take t.verdicts.length).map CallSpec.expected ∧
    (∀ n e, t.pc ≠ .inBody n false e) := by
  have hs := C12_copies_outside_checks_are_safe ps ops h
  obtain ⟨_, hT⟩ := exists_TInv_of_safeOps (C12_start_is_well_formed ps) hs ht
  exact ⟨hT.verdicts_take.1, hT.checked⟩

/-- non-vacuity: two tasks hammer one function and one shared instance while a third one is created in a
copy of the first one's context between two of its calls -/
example :
    let f : CallSpec := { f := 7, preTruthy := true, condYields := 1, bodyYields := 1, postTruthy := false,
                          postYields := 1 }
    let m : CallSpec := { f := 9, kind := .method, preTruthy := true, condYields := 0, bodyYields := 1,
                          postTruthy := true }
    let k : CallSpec := { f := 9, kind := .ctor, preTruthy := true, condYields := 0, bodyYields := 0,
                          postTruthy := false }
    let ops : List Op := [.run 0, .run 1, .run 0, .run 0, .run 0, .fork 0 [m, k, f], .run 2, .run 1, .run 2, .run 2,
                          .run 0, .thread [f], .run 3, .run 2, .run 2]
    copiesOutsideChecks .perContext (World.start [[f, m], [m, f]]) ops = true ∧
    ((runOps .perContext (World.start [[f, m], [m, f]]) ops).tasks.map (·.verdicts)) =
      [[.postViolation], [.returned], [.returned, .postViolation], []] := by
  decide +kernel

/-- the boundary of the statement is real: a context copied INSIDE the body of a public method inherits the
mark of the instance, and the new task's calls on that instance are made bare - a false invariant goes
unnoticed (the same calls made directly from the body would be bare, too) -/
theorem C12_copy_inside_a_method_body_inherits_the_mark :
    let m : CallSpec := { f := 5, kind := .method, preTruthy := true, condYields := 0, bodyYields := 1 }
    let bad : CallSpec := { f := 5, kind := .method, preTruthy := true, condYields := 0, bodyYields := 0,
                            postTruthy := false }
    ((runOps .perContext (World.start [[m]]) [.run 0, .fork 0 [bad], .run 1]).tasks[1]?).map (·.verdicts) =
      some [.returned] ∧
    bad.expected = .postViolation ∧
    safeOps .perContext (World.start [[m]]) [.run 0, .fork 0 [bad], .run 1] = false := by
  decide +kernel

/-- two tasks whose contexts were copied after the parent's first checked call (upstream: they share
the parent's set object 0); the first is suspended inside the evaluation of f's precondition when the
second calls f with a false precondition -/
def aliasWitness : World :=
  { sets := [[]],
    tasks := [{ ctx := 0, calls := [{ f := 7, preTruthy := true, condYields := 1, bodyYields := 0 }] },
              { ctx := 0, calls := [{ f := 7, preTruthy := false, condYields := 0, bodyYields := 0 }] }] }

/-- **Upstream**, sharing one mutable set through copied contexts: the concurrent call with a false
precondition returned normally. -/
theorem C12_shared_set_let_a_violating_call_return :
    ((runSchedule .shared aliasWitness [0, 1, 0, 0]).tasks[1]?).map (·.verdicts) = some [.returned] ∧
    ({ f := 7, preTruthy := false, condYields := 0, bodyYields := 0 } : CallSpec).expected = .violation := by
  decide +kernel

/-- the same, with the second task created by copying the first one's context between its calls - which is
safe under the repaired discipline and was not under the upstream one -/
theorem C12_shared_set_fork_witness :
    let c0 : CallSpec := { f := 7, preTruthy := true, condYields := 1, bodyYields := 0 }
    let c1 : CallSpec := { f := 7, preTruthy := false, condYields := 0, bodyYields := 0 }
    ((runOps .shared (World.start [[c0]]) [.fork 0 [c1], .run 0, .run 1]).tasks[1]?).map (·.verdicts) =
      some [.returned] ∧
    ((runOps .perContext (World.start [[c0]]) [.fork 0 [c1], .run 0, .run 1]).tasks[1]?).map (·.verdicts) =
      some [.violation] := by
  decide +kernel

/-- the same schedule under the repaired discipline (each context has its own binding) -/
theorem C12_per_context_rejects_it :
    ((runSchedule .perContext
        { sets := [[], []],
          tasks := [{ ctx := 0, calls := [{ f := 7, preTruthy := true, condYields := 1, bodyYields := 0 }] },
                    { ctx := 1, calls := [{ f := 7, preTruthy := false, condYields := 0, bodyYields := 0 }] }] }
        [0, 1, 0, 0]).tasks[1]?).map (·.verdicts) = some [.violation] := by
  decide +kernel

end Icontract.Conc
