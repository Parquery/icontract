/-
  C11 - checking is re-armed after every outcome: no sticky suspension, no lost error.
-/
import IcontractModel.Lemmas.Instances
namespace Icontract
open Res

/-- `IdSet`s handled by the wrappers are duplicate-free lists -/
def IdSet.WF (s : IdSet) : Prop := s.Nodup

/-- **The suspension state is restored after every outcome**: for every checker, every oracle (every
site may answer or raise anything), every call that is not an own re-entry, the in-progress set after
the call equals the set before it — whatever the outcome (return, violation, any exception). -/
theorem C11_state_restored (ck : Checker) (o : Oracle) (s : IdSet) (call : Call)
    (hs : s.contains ck.fid = false) :
    (callSync ck o s call).2 = s ∧ (callAsync ck o s call).2 = s := by
  rw [callSync_eq hs, callAsync_eq hs]
  exact ⟨rfl, rfl⟩

/-- Lifted to histories: after any sequence of (possibly faulted) calls of checkers that are not in
progress, the state is the initial one, so a probe call behaves as in a fresh context. -/
theorem C11_state_restored_after_history (calls : List (Checker × Oracle × Call)) (s : IdSet)
    (hs : ∀ x ∈ calls, s.contains x.1.fid = false) :
    calls.foldl (fun st x => (callSync x.1 x.2.1 st x.2.2).2) s = s ∧
    calls.foldl (fun st x => (callAsync x.1 x.2.1 st x.2.2).2) s = s := by
  constructor
  · refine List.foldlRecOn calls _ (motive := (· = s)) rfl fun _ e x hx => ?_
    rw [e, callSync_eq (hs x hx)]
  · refine List.foldlRecOn calls _ (motive := (· = s)) rfl fun _ e x hx => ?_
    rw [e, callAsync_eq (hs x hx)]

/-- the verdict of a call does not depend on the in-progress ids of other functions -/
theorem C11_probe_independent_of_foreign_ids (ck : Checker) (o : Oracle) (s s' : IdSet) (call : Call)
    (hs : s.contains ck.fid = false) (hs' : s'.contains ck.fid = false) :
    (callSync ck o s call).1 = (callSync ck o s' call).1 ∧ (callAsync ck o s call).1 = (callAsync ck o s' call).1 := by
  rw [callSync_eq hs, callSync_eq hs', callAsync_eq hs, callAsync_eq hs']
  exact ⟨rfl, rfl⟩

/-- **No lost error, conditions**: whatever a precondition evaluation raises is either a library
error about the contract's arguments/coroutine-ness, the very exception object the condition raised,
the very object its truth test raised (non-`Exception`), or `ValueError` chained to it (`Exception`). -/
theorem C11_sync_condition_error_surfaces (o : Oracle) (kw : Kwargs) (c : Contract) (r : Raised)
    (h : (evalPreSync o kw c).out = .error r) :
    (∃ ns, r = .typeErr (.missingCondArgs c.id ns)) ∨
    (∃ k, r = .valueErr k none) ∨
    (∃ e, o.cond c.id = .raises e ∧ r = .user e) ∨
    (∃ v e, o.cond c.id = .val v (.raises e) ∧
      ((e.isException = true ∧ r = .valueErr (.negateFailed c.id) (some e)) ∨ (e.isException = false ∧ r = .user e))) := by
  rw [evalPreSync_eq, selectConditionKwargs_eq] at h
  by_cases hm : (missingNames c.mandatory kw).isEmpty = true
  · rw [if_pos hm, pure_bind'] at h
    split at h
    · exact .inr (.inl ⟨_, (Except.error.inj h).symm⟩)
    · split at h
      · exact .inr (.inl ⟨_, (Except.error.inj h).symm⟩)
      · exact .inr (.inr (judge_error h))
  · rw [if_neg hm] at h
    exact .inl ⟨_, (Except.error.inj h).symm⟩

theorem C11_async_condition_error_surfaces (o : Oracle) (kw : Kwargs) (c : Contract) (r : Raised)
    (h : (evalCondAsync o kw c).out = .error r) :
    (∃ ns, r = .typeErr (.missingCondArgs c.id ns)) ∨
    (∃ e, (o.cond c.id = .raises e ∨ o.cond c.id = .coro (.raises e)) ∧ r = .user e) ∨
    (∃ v e, (o.cond c.id = .val v (.raises e) ∨ o.cond c.id = .coro (.val v (.raises e))) ∧
      ((e.isException = true ∧ r = .valueErr (.negateFailed c.id) (some e)) ∨ (e.isException = false ∧ r = .user e))) := by
  rw [evalCondAsync_eq, selectConditionKwargs_eq] at h
  by_cases hm : (missingNames c.mandatory kw).isEmpty = true
  · rw [if_pos hm, pure_bind'] at h
    refine .inr ?_
    -- the object judged is the condition's answer, or what awaiting it gives
    obtain ⟨a, ha, hj⟩ : ∃ a, (o.cond c.id = a ∨ o.cond c.id = .coro a) ∧ (judge c a).out = .error r := by
      split at h
      · exact ⟨_, .inl rfl, h⟩
      · split at h
        · next inner hc => exact ⟨inner, .inr hc, h⟩
        · exact ⟨_, .inl rfl, h⟩
    exact (judge_error hj).imp (fun ⟨e, h1, h2⟩ => ⟨e, h1 ▸ ha, h2⟩)
      (fun ⟨v, e, h1, h2⟩ => ⟨v, e, h1 ▸ ha, h2⟩)
  · rw [if_neg hm] at h
    exact .inl ⟨_, (Except.error.inj h).symm⟩

/-- **No lost error, error creation**: building the violation error either yields the contract's
error, or surfaces the factory's / message generation's own exception (as that very object, or as
the documented `RuntimeError` chained to it), or a library TypeError. -/
theorem C11_error_creation_error_surfaces (o : Oracle) (c : Contract) (kw : Kwargs) (r : Raised)
    (h : (createViolationError o c kw).out = .error r) :
    (∃ k, r = .typeErr k) ∨ r = .notImplemented c.id ∨
    (∃ e, o.fac c.id = .raises e ∧ r = .user e) ∨
    (∃ e, o.msg c.id = .raises e ∧ (r = .user e ∨ (e.isException = true ∧ r = .runtimeErr c.id e))) := by
  rw [createViolationError_eq] at h
  split at h
  · split at h
    · cases h
    · next e hm =>
      refine .inr (.inr (.inr ⟨e, hm, ?_⟩))
      cases Except.error.inj h
      cases e.isException
      · exact .inl rfl
      · exact .inr ⟨rfl, rfl⟩
  · next args _ =>
    rw [selectErrorKwargs_eq] at h
    by_cases hm : (missingNames args kw).isEmpty = true
    · rw [if_pos hm, pure_bind'] at h
      split at h
      · cases h
      · exact .inl ⟨_, (Except.error.inj h).symm⟩
      · next e hf => exact .inr (.inr (.inl ⟨e, hf, (Except.error.inj h).symm⟩))
    · rw [if_neg hm] at h
      exact .inl ⟨_, (Except.error.inj h).symm⟩
  · split at h
    · split at h
      · cases h
      · next e hm => exact .inr (.inr (.inr ⟨e, hm, .inl (Except.error.inj h).symm⟩))
    · exact .inl ⟨_, (Except.error.inj h).symm⟩
  · cases h
  · exact .inr (.inl (Except.error.inj h).symm)

/-- **No lost error, body**: an exception raised by the body is the outcome of the checked path
whenever the body is reached (already C02), and an exception raised by a capture surfaces as itself. -/
theorem C11_capture_error_surfaces (o : Oracle) (kw : Kwargs) (acc : List (String × Id)) (ss : List Snapshot) (r : Raised)
    (h : (captureOldSync o kw acc ss).out = .error r) :
    (∃ k, r = .typeErr k) ∨ (∃ k, r = .valueErr k none) ∨ (∃ s ∈ ss, ∃ e, o.capture s.id = .raises e ∧ r = .user e) := by
  induction ss generalizing acc with
  | nil => cases h
  | cons s ss ih =>
    rw [captureOldSync_cons] at h
    split at h
    · exact .inr (.inl ⟨_, (Except.error.inj h).symm⟩)
    · by_cases hm : (missingNames s.args kw).isEmpty = true
      · rw [selectCaptureKwargs_eq, if_pos hm, pure_bind'] at h
        simp only [] at h
        split at h
        · next e ho => exact .inr (.inr ⟨s, List.mem_cons_self, e, ho, (Except.error.inj h).symm⟩)
        · exact .inr (.inl ⟨_, (Except.error.inj h).symm⟩)
        · exact (ih _ h).imp_right (Or.imp_right fun ⟨s', hs', x⟩ => ⟨s', List.mem_cons_of_mem _ hs', x⟩)
      · rw [selectCaptureKwargs_eq, if_neg hm] at h
        exact .inl ⟨_, (Except.error.inj h).symm⟩

end Icontract
