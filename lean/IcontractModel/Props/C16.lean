/-
  C16 - deterministic evaluation order and first-failure reporting.  Statements with short proofs.
-/
import IcontractModel.Spec.Trace
import IcontractModel.Chain
import IcontractModel.Lemmas.Order
import IcontractModel.Lemmas.ChainPre
namespace Icontract
open List

/-- **Phase order.** The site log of a checked call is
`preconditions ++ captures ++ body ++ postconditions`: four consecutive segments, each containing
only events of its phase (condition calls, truth tests, awaits of conditions, error factories and
message building count as check events of the phase they occur in). -/
theorem C16_sync_phase_order (ck : Checker) (o : Oracle) (call : Call) :
    ∃ t1 t2 t3 t4, (checkedSync ck o call).trace = t1 ++ t2 ++ t3 ++ t4 ∧
      (∀ e ∈ t1, e.isCheck = true) ∧ (∀ e ∈ t2, e.isCapture = true) ∧
      (∀ e ∈ t3, e.isBody = true) ∧ t3.length ≤ 1 ∧ (∀ e ∈ t4, e.isCheck = true) ∧
      condsCalled t1 <+ (ck.pre.flatten.map (·.id)) ∧
      condsCalled t4 <+: (ck.posts.map (·.id)) := by
  rw [checkedSync_eq]
  exact checkedG_phase_order (syncHooks_hooksOK o)

theorem C16_async_phase_order (ck : Checker) (o : Oracle) (call : Call) :
    ∃ t1 t2 t3 t4, (checkedAsync ck o call).trace = t1 ++ t2 ++ t3 ++ t4 ∧
      (∀ e ∈ t1, e.isCheck = true) ∧ (∀ e ∈ t2, e.isCapture = true) ∧
      (∀ e ∈ t3, e.isBody = true) ∧ t3.length ≤ 1 ∧ (∀ e ∈ t4, e.isCheck = true) ∧
      condsCalled t1 <+ (ck.pre.flatten.map (·.id)) ∧
      condsCalled t4 <+: (ck.posts.map (·.id)) := by
  rw [checkedAsync_eq]
  exact checkedG_phase_order (asyncHooks_hooksOK o)

/-- **Within a group**: conditions are called in list order, each listed position at most once, and
evaluation stops at the first one that is not truthy — the conditions called are a prefix of the group. -/
theorem C16_group_called_in_order (o : Oracle) (kw : Kwargs) (g : List Contract) :
    condsCalled (checkGroupSync o kw g).trace <+: g.map (·.id) ∧
    condsCalled (checkGroupAsync o kw g).trace <+: g.map (·.id) := by
  rw [checkGroupSync_eq, checkGroupAsync_eq]
  exact ⟨checkGroupG_conds_prefix (evalPreSync_evalOK o kw) g, checkGroupG_conds_prefix (evalCondAsync_evalOK o kw) g⟩

/-- ... and with plain truth values exactly the conditions up to and including the first falsy one. -/
theorem C16_group_stops_at_first_falsy (o : Oracle) (kw : Kwargs) (g : List Contract)
    (htot : totalOn false o kw g) (hargs : ∀ c ∈ g, (missingNames c.mandatory kw).isEmpty = true) :
    condsCalled (checkGroupSync o kw g).trace =
      ((g.takeWhile (fun c => condTruthy false o kw c)) ++
        (match firstFalsy false o kw g with | some c => [c] | none => [])).map (·.id) := by
  rw [checkGroupSync_eq, checkGroupG_conds_det (evalPreSync_evalOK o kw) (condTruthy false o kw) g
    fun c hc => (evalPreSync_evalOK o kw c).det (htot c hc)]
  unfold firstFalsy
  cases g.find? (fun c => !condTruthy false o kw c) <;> rfl

/-- **Groups are tried in order until one holds**: with plain truth values, once a group holds no
condition of a later group is called. -/
theorem C16_groups_until_one_holds (o : Oracle) (kw : Kwargs) (gs1 gs2 : List (List Contract)) (g : List Contract)
    (htot : ∀ g' ∈ gs1 ++ [g], totalOn false o kw g')
    (hg : ∀ c ∈ g, condTruthy false o kw c = true) :
    (assertPreSyncAux o kw none (gs1 ++ g :: gs2)).trace = (assertPreSyncAux o kw none (gs1 ++ [g])).trace ∧
    (assertPreSyncAux o kw none (gs1 ++ g :: gs2)).out = .ok none := by
  simp only [assertPreSyncAux_eq]
  rw [assertPreAuxG_append_of_holds
    (checkGroupG_none_iff.mpr fun c hc => (evalPreSync_evalOK o kw c).out_false.mpr (hg c hc))]
  refine ⟨rfl, ?_⟩
  rw [assertPreAuxG_det (pos := condTruthy false o kw) _ _
    fun g' hg' c hc => (evalPreSync_evalOK o kw c).det (htot g' hg' c hc),
    if_pos (List.any_eq_true.mpr ⟨g, List.mem_append_right _ (List.mem_singleton_self g), List.all_eq_true.mpr hg⟩)]

/-- **The message is built at most once**, and only for the contract whose violation surfaces. -/
theorem C16_message_built_at_most_once (ck : Checker) (o : Oracle) (call : Call) :
    ((checkedSync ck o call).trace.filterMap Event.msgId).length ≤ 1 ∧
    ((checkedAsync ck o call).trace.filterMap Event.msgId).length ≤ 1 := by
  rw [checkedSync_eq, checkedAsync_eq]
  exact ⟨checkedG_msgs (syncHooks_hooksOK o), checkedG_msgs (asyncHooks_hooksOK o)⟩

/-- Inherited contracts precede a class's own (chain reading): the effective lists along a chain are
the concatenation base-first. -/
theorem C16_inherited_before_own (ls : List Level) (l : Level) :
    chainPosts (ls ++ [l]) = chainPosts ls ++ l.posts ∧
    chainSnaps (ls ++ [l]) = chainSnaps ls ++ l.snaps ∧
    chainPre (ls ++ [l]) = chainPre ls ++ (if l.pre.isEmpty then [] else [l.pre]) := by
  refine ⟨?_, ?_, ?_⟩
  · simp [chainPosts, List.flatMap_append]
  · simp [chainSnaps, List.flatMap_append]
  · rw [chainPre_append, chainPre_singleton]

end Icontract
