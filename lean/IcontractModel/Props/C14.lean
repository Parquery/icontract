/-
  C14 - satisfied contracts are transparent.
-/
import IcontractModel.Stack
import IcontractModel.Lemmas.Post
import IcontractModel.Lemmas.StackLemmas
namespace Icontract.Stack

/-- **Any number of stacked contract decorators - even separated by foreign functools.wraps
decorators - share a single checker.** -/
theorem C14_single_checker (ds : List Deco) (o : FObj) (h : applyAll ds {} = .ok o) :
    o.layers.count .checker ≤ 1 ∧ (o.layers.count .checker = 1 ↔ ∃ d ∈ ds, d.isContract = true) := by
  have hn : o.layers.count .checker = if ds.any Deco.isContract = true then 1 else 0 := by
    rw [(applyAll_ok h).checkers]
    cases ds.any Deco.isContract <;> rfl
  rw [hn, ← List.any_eq_true]
  cases ds.any Deco.isContract <;> decide

/-- **Every foreign layer still runs**: the foreign decorators applied so far are all in the chain, in
application order (innermost first), whatever contract decorators were applied around them. -/
theorem C14_foreign_layers_preserved (ds : List Deco) (o : FObj) (h : applyAll ds {} = .ok o) :
    layerForeignIds o.layers = (foreignIds ds).reverse ∧
    (∀ g ∈ foreignIds ds, CallEv.foreignRan g ∈ callTrace o) ∧ CallEv.body ∈ callTrace o := by
  have hl : layerForeignIds o.layers = (foreignIds ds).reverse :=
    (applyAll_ok h).foreign.trans (List.append_nil _)
  refine ⟨hl, fun g hg => foreignRan_mem_callTrace ?_, body_mem_callTrace⟩
  rw [hl]
  exact List.mem_reverse.mpr hg

/-- **Every contract is on that one checker**, in application order (innermost decorator first). -/
theorem C14_all_contracts_on_the_checker (ds : List Deco) (o : FObj) (h : applyAll ds {} = .ok o) :
    o.pre = requireIds ds ∧ o.posts = ensureIds ds := by
  have ha := applyAll_ok h
  exact ⟨ha.pre.trans (List.nil_append _), ha.posts.trans (List.nil_append _)⟩

/-- **Instantiability is unchanged** by the `__new__` wrapper (repaired: it drops the arguments meant for a
subclass `__init__`), for every constructor shape and every number of arguments ... -/
theorem C14_instantiation_unchanged (s : CtorShape) (n : Nat) :
    instantiateWithNewWrapper true s n = instantiatePlain s n := by
  simp [instantiateWithNewWrapper, instantiatePlain]

/-- ... whereas forwarding the arguments to `object.__new__` (upstream) broke subclasses adding a
constructor with arguments -/
theorem C14_upstream_new_wrapper_broke_subclass_constructors :
    instantiatePlain { userNew := false, userInit := true, initArity := 1 } 1 = true ∧
    instantiateWithNewWrapper false { userNew := false, userInit := true, initArity := 1 } 1 = false := by
  decide

end Icontract.Stack

namespace Icontract

/-- **When all applicable contracts hold the call is the bare call**: the body receives exactly the
positional and keyword objects of the call, and the caller receives the very object the body
returned or the very exception it raised (sync; all preconditions of some group and all
postconditions truthy, captures succeeding, reserved names free). -/
theorem C14_satisfied_contracts_are_transparent (ck : Checker) (o : Oracle) (call : Call)
    (old : List (String × Id)) (h : ReachesBodySync ck o call old)
    (hpost : ∀ v, o.body = .ret v →
      cnfHolds false o ((kwAtBody ck (resolved ck call) old).set "result" (.obj v)) ck.posts) :
    Event.body call.args call.kwargs ∈ (checkedSync ck o call).trace ∧
    (checkedSync ck o call).out = (match o.body with | .ret v => .ok v | .raises e => .error (.user e)) := by
  rw [checkedSync_eq]
  exact checkedG_transparent (syncHooks_hooksOK o) h.toG hpost

theorem C14_async_satisfied_contracts_are_transparent (ck : Checker) (o : Oracle) (call : Call)
    (old : List (String × Id)) (h : ReachesBodyAsync ck o call old)
    (hpost : ∀ v, o.body = .ret v →
      cnfHolds true o ((kwAtBody ck (resolved ck call) old).set "result" (.obj v)) ck.posts) :
    Event.body call.args call.kwargs ∈ (checkedAsync ck o call).trace ∧
    (checkedAsync ck o call).out = (match o.body with | .ret v => .ok v | .raises e => .error (.user e)) := by
  rw [checkedAsync_eq]
  exact checkedG_transparent (asyncHooks_hooksOK o) h.toG hpost

end Icontract
