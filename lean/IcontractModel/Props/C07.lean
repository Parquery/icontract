/-
  C07 - a violation always surfaces as the contract's error with the true condition text.
  Building the message never replaces the violation (the re-evaluation cannot fail where Python
  succeeded) and never evaluates what Python's short-circuit evaluation skipped.

  `e.wf` is the well-formedness of Python's `ast` (see Props/C06.lean); without it the two re-evaluation
  statements are false (Lemmas/ReevalCounterexamples.lean).
-/
import IcontractModel.Spec.PyEval
import IcontractModel.Represent
import IcontractModel.Props.C06
import IcontractModel.SrcScan
import IcontractModel.Lemmas.SrcScanLemmas
namespace Icontract.Ex

/-- **The re-evaluation cannot fail where Python succeeded**: whenever Python evaluates the (well-formed)
condition (to any value, in particular a falsy one) the re-evaluator returns normally - so the violation
error is built from the message and never replaced by `RuntimeError("Failed to recompute ...")`. -/
theorem C07_reevaluation_total (ops : Ops) (env : Env) (e : Expr) (v : Val) (P : Log)
    (hwf : e.wf = true)
    (hid : (allIds e).Nodup) (h : pyEval ops env e = .ok (v, P)) :
    ∃ r, (visit ops env.builtins (Tbl.ofNames env.names) e).out = .ok r :=
  ⟨some v, (C06_recomputed_values_are_pythons ops env e v P hwf hid h).1⟩

/-- **Nothing that Python's short-circuit evaluation skipped is evaluated**: every node the
re-evaluator computes outside comprehension scopes is a node Python evaluated. -/
theorem C07_no_extra_evaluation (ops : Ops) (env : Env) (e : Expr) (v : Val) (P : Log)
    (hwf : e.wf = true)
    (hid : (allIds e).Nodup) (h : pyEval ops env e = .ok (v, P)) :
    ∀ p ∈ (visit ops env.builtins (Tbl.ofNames env.names) e).log,
      (innerIds e).contains p.1 = false → p.1 ∈ P.map (·.1) := by
  intro p hp hc
  exact List.mem_map.mpr ⟨p, C06_every_recorded_value_is_pythons ops env e v P hwf hid h p hp hc, rfl⟩

/-- the two order differences are real: there is a (pure) condition whose log the re-evaluator records in another
order than Python evaluates it - which is why the general statement is about permutations -/
theorem C07_dict_items_are_visited_value_first :
    ∃ (ops : Ops) (env : Env) (e : Expr) (v : Val) (P : Log), e.wf = true ∧ (allIds e).Nodup ∧
      pyEval ops env e = .ok (v, P) ∧
      (visit ops env.builtins (Tbl.ofNames env.names) e).log ≠ P := by
  -- `{a: b}`: Python evaluates `a`, then `b`; the visitor visits `b`, then `a`
  refine ⟨Cex.ops0, ⟨[("a", .int 1), ("b", .int 2)], []⟩, .dict 0 [(some (.name 1 "a"), .name 2 "b")], _, _, rfl,
    by decide +kernel, rfl, fun hc => ?_⟩
  -- the ids in the two logs: 2, 1, 0 against 1, 2, 0
  exact absurd (congrArg (List.map (·.1)) hc) (by decide +kernel)

/-- guard-style conditions: with a falsy first operand of `and`, the later operands are not visited at all -/
theorem C07_and_guard_skips_later_operands (ops : Ops) (bi : List (String × Val)) (tbl : Tbl) (i : Nat)
    (g rest1 : Expr) (rest : List Expr) (gv : Val)
    (hg : (visit ops bi tbl g).out = .ok (some gv)) (hf : ops.truth gv = .ok false) :
    (visit ops bi tbl (.boolop i true (g :: rest1 :: rest))).log = (visit ops bi tbl g).log ++ [(i, gv)] ∧
    (visit ops bi tbl (.boolop i true (g :: rest1 :: rest))).out = .ok (some gv) := by
  have hb : visitBool ops bi tbl true false none (g :: rest1 :: rest) = ⟨(visit ops bi tbl g).log, .ok (some gv)⟩ := by
    unfold visitBool
    rw [VRes.bind_of_ok hg]
    simp [hf, VRes.lift_ok_bind]
  have hv : visit ops bi tbl (.boolop i true (g :: rest1 :: rest)) =
      ⟨(visit ops bi tbl g).log ++ [(i, gv)], .ok (some gv)⟩ := by
    conv => lhs; unfold visit
    rw [hb]
    rfl
  rw [hv]
  exact ⟨rfl, rfl⟩

/-- a comprehension part that cannot be re-computed does not make the re-evaluation fail -/
theorem C07_comprehension_internals_are_best_effort (ops : Ops) (bi : List (String × Val)) (tbl : Tbl)
    (i : Nat) (targets : List String) (first : Expr) (inner : List Expr) (hp : tbl.hasPlaceholder = false) :
    (visit ops bi tbl (.comp i targets first inner)).out = (ops.comp i tbl.values).map some := by
  unfold visit
  simp only [VRes.mk_ok_bind, VRes.bind_of_ok harvest_out, hp]
  cases ops.comp i tbl.values <;>
    simp [Except.map, VRes.record_bind, VRes.lift_ok_bind, VRes.lift_error_bind]

end Icontract.Ex

namespace Icontract.Src

/-- **The layout of the decorator does not matter.**  Let the decorator occupy the lines `s .. e-1` of the file:
line `s` starts it (`@name...`), none of its continuation lines `s+1 .. e-1` starts with `@name`, `def `, `async def` or `class `
(whatever else they contain - arguments, comments, strings, closing parentheses, blank lines), and line `e` is the next
decorator or the decorated `def` / `class`.  Then from ANY line of the decorator (the interpreter reports the first,
the last or a middle line of a multi-line call, depending on its version and on the layout) the scan recovers exactly
the lines `s .. e-1` - no matter how many lines there are or what surrounds the decorator in the file. -/
theorem C07_layout_does_not_matter (ks : List LineKind) (s e lineno : Nat)
    (hs : ks[s]? = some .deco) (he : ks[e]? = some .deco ∨ ks[e]? = some .defcls)
    (hmid : ∀ i, s < i → i < e → ks[i]? = some .other)
    (h1 : s ≤ lineno) (h2 : lineno < e) :
    scan ks lineno = .ok (s, e) := by
  have helt : e < ks.length := by
    rcases he with h | h <;> exact (List.getElem?_eq_some_iff.1 h).1
  have hother : ∀ i, s < i → i < e → ks[i]? ≠ some .deco ∧ ks[i]? ≠ some .defcls := by
    intro i hi1 hi2
    rw [hmid i hi1 hi2]
    exact ⟨nofun, nofun⟩
  exact (scan_eq_ok_iff ks lineno s e).2 ⟨Nat.lt_trans h2 helt,
    (findUp_eq_some_iff ks lineno s).2
      ⟨h1, hs, fun i hi1 hi2 => (hother i hi1 (Nat.lt_of_le_of_lt hi2 h2)).1⟩,
    (findDown_eq_some_iff ks (lineno + 1) e).2
      ⟨h2, he, fun i hi1 hi2 => hother i (Nat.lt_of_le_of_lt h1 hi1) hi2⟩⟩

/-- conversely, whatever the scan returns is a decorator line at or above the given line and the first
decorator / def / class line below it: nothing else in the file influences the recovered extent -/
theorem C07_scan_result_characterised (ks : List LineKind) (lineno s e : Nat) (h : scan ks lineno = .ok (s, e)) :
    s ≤ lineno ∧ lineno < e ∧ ks[s]? = some .deco ∧ (ks[e]? = some .deco ∨ ks[e]? = some .defcls) ∧
    (∀ i, s < i → i ≤ lineno → ks[i]? ≠ some .deco) ∧
    (∀ i, lineno < i → i < e → ks[i]? ≠ some .deco ∧ ks[i]? ≠ some .defcls) := by
  obtain ⟨_, hup, hdown⟩ := (scan_eq_ok_iff ks lineno s e).1 h
  obtain ⟨u1, u2, u3⟩ := (findUp_eq_some_iff ks lineno s).1 hup
  obtain ⟨d1, d2, d3⟩ := (findDown_eq_some_iff ks (lineno + 1) e).1 hdown
  exact ⟨u1, d1, u2, d2, u3, d3⟩

/-- non-vacuity: a five-line decorator reported at its last line, between another decorator and the `def` -/
example : scan [.other, .deco, .deco, .other, .other, .other, .other, .defcls, .other] 6 = .ok (2, 7) := by rfl

end Icontract.Src
