/-
  C04 - inherited contracts combine per Liskov: pre OR-ed, post and invariants AND-ed.
  Statements about the heap model of the metaclass (Meta.lean).  Proved here: the collapse rules themselves, for
  every world / heap / namespace; for single-inheritance chains of any depth built from the empty world, acceptance and
  the chain reading (the groups of the levels `0..i`, their postconditions concatenated); for accepted histories of
  arbitrary shape, the declarative semantics `specPreAt` / `specListAt` of Spec/Override.lean (also the oracle of the
  correspondence run); the invariants of a class as the declarations of its ancestors.  `chainPre` / `chainPosts` of
  Chain.lean, about which C01 / C02 / C16 reason, have the shape of the chain reading; no theorem ties the two models.
-/
import IcontractModel.Meta
import IcontractModel.Spec.Override
import IcontractModel.Lemmas.MetaClass
import IcontractModel.Spec.ChainHistory
import IcontractModel.Lemmas.ChainLemmas
import IcontractModel.Spec.DagHistory
import IcontractModel.Lemmas.DagLemmas
import IcontractModel.Spec.DagHistoryInv
import IcontractModel.Lemmas.DagInvLemmas
namespace Icontract.Meta

/-- **Collapse rule** (`_decorate_namespace_function`, inherited members): when the collapse is
accepted and there is something to install, the function's checker shows exactly
`base groups ++ own groups`, `base snapshots ++ own snapshots`, `base postconditions ++ own
postconditions` - inherited first.  The groups collected from the bases are *copied*: the outer list
holds `bPre.length` fresh cells (the consecutive new indices) followed by the function's own group
cells, and - whenever the collected and own group references point into the heap - the group
*contents* shown are the base groups' contents followed by the own groups' contents. -/
theorem C04_collapse_is_base_then_own (w w' : World) (key : String) (f : FnId)
    (have_ : Bool) (bPre bSnaps bPosts : List Nat)
    (hok : decorateOne w key f true (have_, bPre, bSnaps, bPosts) = .ok w')
    (hsome : ¬ ((bPre ++ (match w.checker? f with | some ck => w.heap.get ck.pre | none => [])).isEmpty = true ∧
               (bPosts ++ (match w.checker? f with | some ck => w.heap.get ck.posts | none => [])).isEmpty = true)) :
    ∃ ck', w'.checker? f = some ck' ∧
      w'.heap.get ck'.pre = List.range' w.heap.length bPre.length ++
        (match w.checker? f with | some ck => w.heap.get ck.pre | none => []) ∧
      ((∀ g ∈ bPre ++ (match w.checker? f with | some ck => w.heap.get ck.pre | none => []), g < w.heap.length) →
        preOf w' f =
          (bPre ++ (match w.checker? f with | some ck => w.heap.get ck.pre | none => [])).map w.heap.get) ∧
      w'.heap.get ck'.snaps = bSnaps ++ (match w.checker? f with | some ck => w.heap.get ck.snaps | none => []) ∧
      w'.heap.get ck'.posts = bPosts ++ (match w.checker? f with | some ck => w.heap.get ck.posts | none => []) := by
  rcases (decorateOne_spec hok).2.2 with ⟨h1, h2, _⟩ | ⟨N, c⟩
  · exact absurd ⟨List.isEmpty_iff.mpr h1, List.isEmpty_iff.mpr h2⟩ hsome
  · exact ⟨_, c.checker, c.preCell, c.preOf_eq, c.snapsCell, c.postsCell⟩

/-- **Constructors are not inherited**: for `__init__` / `__new__` nothing is collapsed, whatever the bases carry. -/
theorem C04_constructor_contracts_not_inherited (w : World) (bases : List ClsId) (f : FnId) :
    decorateMember w bases "__init__" (.func f) = .ok w ∧ decorateMember w bases "__new__" (.func f) = .ok w := by
  constructor
  · rw [decorateMember, bne_self_eq_false, Bool.false_and, decorateOne_off]
  · rw [decorateMember, bne_self_eq_false, Bool.and_false, decorateOne_off]

/-- **Weakening without a base precondition is rejected** when the class is created. -/
theorem C04_weaken_without_base_precondition_rejected (w : World) (key : String) (f : FnId)
    (bSnaps bPosts : List Nat) (ck : CheckerObj)
    (hck : w.checker? f = some ck) (hown : w.heap.get ck.pre ≠ []) :
    decorateOne w key f true (true, [], bSnaps, bPosts) = .error (.typeErrorWeaken key) := by
  rw [decorateOne_eq, if_pos ⟨rfl, rfl, by rw [ownPre, hck]; exact hown⟩]

/-- **An ancestor that provides the member with no precondition at all makes it accept every
call**: as soon as one direct base provides the member without a checker, or with an empty
precondition list, no precondition group is collected from any base. -/
theorem C04_unconstrained_base_accepts_everything (w : World) (acc : BaseAcc) (ck : Option CheckerObj)
    (h : ck = none ∨ ∃ c, ck = some c ∧ w.heap.get c.pre = []) :
    (acc.add w ck).result.1 = true ∧ (acc.add w ck).result.2.1 = [] := by
  rcases h with rfl | ⟨c, rfl, hc⟩
  · simp [BaseAcc.add, BaseAcc.result]
  · simp [BaseAcc.add, BaseAcc.result, hc]

/-- ... and it stays so whatever further bases contribute -/
theorem C04_accept_all_is_sticky (w : World) (acc : BaseAcc) (ck : Option CheckerObj)
    (h : acc.acceptAll = true) : (acc.add w ck).acceptAll = true ∧ (acc.add w ck).result.2.1 = [] := by
  cases ck with
  | none => simp [BaseAcc.add, BaseAcc.result]
  | some c => simp [BaseAcc.add, BaseAcc.result, h]

/-- **Invariants of all bases are merged** into a *fresh* list (never a base's list object): the new
reference lies beyond every existing cell and holds the concatenation of the bases' lists. -/
theorem C04_invariants_merged_into_fresh_list (w w' : World) (bases : List ClsId) (d : InvDunder) (r : Ref)
    (h : collapseInv w bases d = (w', some r)) :
    r = w.heap.length ∧
    w'.heap.get r = bases.foldl (fun acc b => match lookupInv w b d with
      | some rb => acc ++ w.heap.get rb
      | none => acc) [] ∧
    (∀ r' < w.heap.length, w'.heap.get r' = w.heap.get r') := by
  rw [collapseInv_eq] at h
  split at h
  · simp only [Prod.mk.injEq, Option.some.injEq] at h
    obtain ⟨rfl, rfl⟩ := h
    exact ⟨rfl, (Heap.get_alloc_self _ _).trans (collapseInv_merged w bases d).symm,
      fun r' hr' => Heap.get_alloc_lt hr'⟩
  · cases h

/-- a class whose bases carry invariant lists always gets its own (the repaired aliasing, F8) -/
theorem C04_subclass_gets_own_invariant_lists (w : World) (bases : List ClsId) (d : InvDunder)
    (h : ∃ b ∈ bases, (lookupInv w b d).isSome = true) :
    ∃ w' r, collapseInv w bases d = (w', some r) :=
  ⟨_, _, collapseInv_some w bases d h⟩

/-- **Liskov combination along a chain of any depth.**  Start from the empty world and define a
single-inheritance chain of classes (ids `1, 2, ...`), each overriding the ordinary member `key` with its own
function (distinct function ids) carrying at least one own precondition.  Then every definition is accepted,
and for EVERY level `i` of the chain - not only the last - introspection of that level's function shows
* as preconditions the groups of levels `0..i`, inherited first (the disjunction of the chain's groups),
* as postconditions the concatenation of the postconditions of levels `0..i` (their conjunction),
so that later definitions never change what an earlier class demands or promises. -/
theorem C04_chain_effective_contracts (key : String) (hkey : key ≠ "__init__" ∧ key ≠ "__new__")
    (ls : List ChainLevel) (hf : (ls.map (·.f)).Nodup) (hpre : ∀ l ∈ ls, l.pre ≠ []) :
    ∃ w, buildChain key {} none 1 ls = .ok w ∧
      ∀ i (hi : i < ls.length),
        preOf w (ls[i]).f = (upTo ls i).map (·.pre) ∧
        postsOf w (ls[i]).f = (upTo ls i).flatMap (·.posts) := by
  obtain ⟨w, hb, inv⟩ := buildChain_inv hkey ls [] {} (ChainInv.empty key rfl rfl)
    (by rw [List.nil_append]; exact hf) hpre
  rw [List.nil_append] at inv
  exact ⟨w, hb, fun i hi => ⟨(inv.ck i hi).pre, (inv.ck i hi).posts⟩⟩

/-- non-vacuity: a concrete chain of three levels, evaluated by the kernel -/
example :
    (match buildChain "m" {} none 1 [⟨10, [1, 2], [7]⟩, ⟨11, [3], []⟩, ⟨12, [4], [8, 9]⟩] with
     | .ok w => (preOf w 12, postsOf w 12, preOf w 10)
     | .error _ => ([], [], [])) = ([[1, 2], [3], [4]], [7, 8, 9], [[1, 2]]) := by
  decide +kernel

/-- **Liskov combination along an arbitrary inheritance graph.**  Start from the empty world and define classes
`1, 2, ...` one after the other, each with any earlier classes as bases (multiple inheritance, diamonds, gaps) and any
ordinary members bound to fresh function objects with their own preconditions (one group) and postconditions.  If the
history is accepted, then for EVERY member of EVERY class introspection shows exactly the declarative effective
contracts: the precondition groups of `specPreAt` (no group at all when some ancestor accepts every call) and the
postconditions of `specListAt` - for the final world, i.e. later definitions never changed an earlier class. -/
theorem C04_dag_effective_contracts (ds : List ClassDef) (hwf : HistWf ds) (w : World)
    (h : buildHist {} 1 ds = .ok w) :
    ∀ i (hi : i < ds.length) (key : String) (l : ChainLevel), (key, l) ∈ (ds[i]).members →
      preOf w l.f = ((specPreAt w (declsOf ds) (ds.length + 1) (i + 1) key 0).getD []) ∧
      postsOf w l.f = specListAt w (declsOf ds).ownPosts (ds.length + 1) (i + 1) key 0 := by
  have inv := buildHist_inv (declsOf ds) ds [] {} w (DagInv.empty rfl rfl) hwf (declsOf_own ds hwf.1) h
  intro i hi key l hl
  have st := inv.ck i hi key l hl (ds.length + 1) (Nat.succ_le_succ (Nat.le_of_lt hi))
  exact ⟨st.pre, st.posts⟩

/-- non-vacuity: a diamond with a gap, evaluated by the kernel -/
example :
    (match buildHist {} 1 [⟨[], [("m", ⟨10, [1], [7]⟩)]⟩, ⟨[1], [("m", ⟨12, [2], []⟩)]⟩, ⟨[1], []⟩,
                           ⟨[2, 3], [("m", ⟨14, [3, 4], [5]⟩)]⟩] with
     | .ok w => (preOf w 14, postsOf w 14, preOf w 10)
     | .error _ => ([], [], [])) = ([[1], [2], [1], [3, 4]], [7, 7, 5], [[1]]) := by decide +kernel

/-- ... and this history is well-formed, so the hypotheses of the theorem are satisfiable -/
example : HistWf [⟨[], [("m", ⟨10, [1], [7]⟩)]⟩, ⟨[1], [("m", ⟨12, [2], []⟩)]⟩, ⟨[1], []⟩,
                  ⟨[2, 3], [("m", ⟨14, [3, 4], [5]⟩)]⟩] := by
  unfold HistWf
  decide +kernel

/-- **The invariants of a class are exactly those its ancestors (and itself) declare** - over an arbitrary inheritance
graph, for each of the three lists (`__invariants__`, `__invariants_on_call__`, `__invariants_on_setattr__`), as sets:
nothing is lost (every ancestor's invariant binds the class: Liskov), and nothing foreign arrives (an invariant declared
on a class that is not among the ancestors - a sibling, a subclass, an unrelated class - never appears: C17 separation).
In diamonds an ancestor's invariant may be listed more than once; the statement is about membership. -/
theorem C04_dag_invariants_are_the_ancestors (ds : List ClassDefI) (hwf : HistWfI ds) (w : World)
    (h : buildHistI {} 1 ds = .ok w) :
    ∀ i (hi : i < ds.length) (d : InvDunder) (c : CId),
      c ∈ invOf w (i + 1) d ↔ ∃ a ∈ mroOf w (i + 1), c ∈ ownInvOn ds (a - 1) d :=
  fun _ hi d c => (buildHistI_IInv hwf h).mem_invOf (Nat.succ_le_succ (Nat.zero_le _)) (Nat.succ_le_of_lt hi) d c

/-- non-vacuity: a diamond whose classes declare invariants for different events, evaluated by the kernel -/
example :
    (match buildHistI {} 1 [⟨[], [("m", ⟨10, [1], [7]⟩)], [(100, ⟨true, false⟩)]⟩,
                            ⟨[1], [("m", ⟨12, [2], []⟩)], [(101, ⟨false, true⟩), (102, ⟨true, true⟩)]⟩,
                            ⟨[1], [], []⟩,
                            ⟨[2, 3], [("n", ⟨14, [], [5]⟩)], [(103, ⟨true, false⟩)]⟩] with
     | .ok w => (invOf w 4 .all, invOf w 4 .onCall, invOf w 4 .onSetattr, invOf w 3 .all, invOf w 2 .all, mroOf w 4)
     | .error _ => ([], [], [], [], [], [])) =
    ([100, 101, 102, 100, 103], [100, 102, 100, 103], [101, 102], [100], [100, 101, 102], [4, 2, 3, 1]) := by
  -- `add_invariant_checks` inspects member names with `String.startsWith`, which the elaborator's evaluator does not
  -- unfold: the proposition is decided by kernel reduction (plain definitional unfolding, no compiled code, no axiom)
  decide +kernel

/-- ... and this history is well-formed, so the hypotheses of the theorem are satisfiable -/
example : HistWfI [⟨[], [("m", ⟨10, [1], [7]⟩)], [(100, ⟨true, false⟩)]⟩,
                   ⟨[1], [("m", ⟨12, [2], []⟩)], [(101, ⟨false, true⟩), (102, ⟨true, true⟩)]⟩,
                   ⟨[1], [], []⟩,
                   ⟨[2, 3], [("n", ⟨14, [], [5]⟩)], [(103, ⟨true, false⟩)]⟩] := by
  unfold HistWfI
  decide +kernel

end Icontract.Meta
