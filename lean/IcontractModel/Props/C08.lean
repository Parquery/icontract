/-
  C08 - OLD snapshots capture pre-state once, after the preconditions and before the body.
  First the run-time half, about the checker model (Checker.lean); then, in namespace `Icontract.Meta`, how snapshots
  are inherited along an arbitrary inheritance graph in the metaclass model (Meta.lean).
-/
import IcontractModel.Lemmas.Post
import IcontractModel.Props.C05
import IcontractModel.Spec.Trace
import IcontractModel.Spec.DagHistorySnaps
import IcontractModel.Lemmas.DagSnapLemmas
namespace Icontract

/-- The capture loop calls the captures in list order, each at most once: the captured ids are a
prefix of the snapshot list (the whole list when no capture fails). -/
theorem C08_sync_captures_in_order_once (o : Oracle) (kw : Kwargs) (acc : List (String × Id)) (ss : List Snapshot) :
    capturesOf (captureOldSync o kw acc ss).trace <+: ss.map (·.id) :=
  (captureOldSync_spec o kw acc ss).order

theorem C08_async_captures_in_order_once (o : Oracle) (kw : Kwargs) (acc : List (String × Id)) (ss : List Snapshot) :
    capturesOf (captureOldAsync o kw acc ss).trace <+: ss.map (·.id) :=
  (captureOldAsync_spec o kw acc ss).order

/-- When the captures succeed, `OLD` maps every snapshot name to the object its capture returned
(sync: return value; async: awaited value) — a function of the captures' answers only, hence
independent of whatever the body does afterwards. -/
theorem C08_sync_old_is_captured_values (o : Oracle) (kw : Kwargs) (ss : List Snapshot) (old : List (String × Id))
    (h : (captureOldSync o kw [] ss).out = .ok old) :
    old = expectedOld false o ss ∧ capturesOf (captureOldSync o kw [] ss).trace = ss.map (·.id) :=
  (captureOldSync_spec o kw [] ss).value old h

theorem C08_async_old_is_captured_values (o : Oracle) (kw : Kwargs) (ss : List Snapshot) (old : List (String × Id))
    (h : (captureOldAsync o kw [] ss).out = .ok old) :
    old = expectedOld true o ss ∧ capturesOf (captureOldAsync o kw [] ss).trace = ss.map (·.id) :=
  (captureOldAsync_spec o kw [] ss).value old h

/-- Nothing is captured unless the callable has both postconditions and snapshots. -/
theorem C08_no_capture_without_postconditions (ck : Checker) (o : Oracle) (call : Call)
    (h : ck.posts = [] ∨ ck.snaps = []) :
    ¬ captured (checkedSync ck o call).trace ∧ ¬ captured (checkedAsync ck o call).trace := by
  rw [checkedSync_eq, checkedAsync_eq]
  exact ⟨checkedG_no_capture (syncHooks_hooksOK o) h, checkedG_no_capture (asyncHooks_hooksOK o) h⟩

/-- Position: the trace of a checked call splits into a precondition part (no capture, no body),
a capture part (captures only) and a rest in which nothing is captured any more:
captures happen after all preconditions and before the body. -/
theorem C08_sync_captures_between_pre_and_body (ck : Checker) (o : Oracle) (call : Call) :
    ∃ tpre tcap trest, (checkedSync ck o call).trace = tpre ++ tcap ++ trest ∧
      (∀ e ∈ tpre, e.isCheck = true) ∧ (∀ e ∈ tcap, e.isCapture = true) ∧
      (∀ e ∈ trest, e.isCapture = false) ∧
      (∀ e ∈ trest, e.isBody = true → ∀ e' ∈ tpre ++ tcap, e'.isBody = false) := by
  rw [checkedSync_eq]
  exact checkedG_between (syncHooks_hooksOK o)

theorem C08_async_captures_between_pre_and_body (ck : Checker) (o : Oracle) (call : Call) :
    ∃ tpre tcap trest, (checkedAsync ck o call).trace = tpre ++ tcap ++ trest ∧
      (∀ e ∈ tpre, e.isCheck = true) ∧ (∀ e ∈ tcap, e.isCapture = true) ∧
      (∀ e ∈ trest, e.isCapture = false) ∧
      (∀ e ∈ trest, e.isBody = true → ∀ e' ∈ tpre ++ tcap, e'.isBody = false) := by
  rw [checkedAsync_eq]
  exact checkedG_between (asyncHooks_hooksOK o)

/-- Every postcondition is evaluated against keyword arguments whose `OLD` entry is exactly the
captured values: the conditions called after the body receive `restrict` of the post keyword
arguments, and those bind `OLD` to `old`. -/
theorem C08_post_kwargs_bind_old (ck : Checker) (kw : Kwargs) (old : List (String × Id)) (r : Id)
    (h : (!ck.posts.isEmpty && !ck.snaps.isEmpty) = true) :
    (postKwargs ck kw old r).get? "OLD" = some (.old old) ∧ (postKwargs ck kw old r).get? "result" = some (.obj r) :=
  (C05_postconditions_get_result_and_old ck kw old r h).symm

end Icontract

/-! ### snapshots along an arbitrary inheritance graph (the metaclass model, `Meta.lean`) -/

namespace Icontract.Meta

/-- **Snapshots are inherited together with postconditions, along an arbitrary inheritance graph, and duplicate names
are rejected across the hierarchy.**  For every ACCEPTED history of class definitions (multiple inheritance, diamonds,
gaps) whose functions carry their own `@snapshot`s, introspection of every member of every class shows exactly the
snapshots of all its ancestors' versions (inherited first, as `specListAt` says) followed by its own - and their names
are pairwise distinct; the postconditions they belong to are inherited the same way. -/
theorem C08_dag_snapshots_inherited (names : List (Nat × String)) (ds : List ClassDefS) (hwf : HistWfS ds) (w : World)
    (h : buildHistS { snapNames := names } 1 ds = .ok w) :
    ∀ i (hi : i < ds.length) (key : String) (l : LevelS), (key, l) ∈ (ds[i]).members →
      snapsOf w l.f = specListAt w (declsOfS ds).ownSnaps (ds.length + 1) (i + 1) key 0 ∧
      ((snapsOf w l.f).map (snapName w)).Nodup ∧
      postsOf w l.f = specListAt w (declsOfS ds).ownPosts (ds.length + 1) (i + 1) key 0 ∧
      (snapsOf w l.f ≠ [] → postsOf w l.f ≠ []) := by
  intro i hi key l hl
  have st := buildHistS_observe hwf h i hi key l hl
  refine ⟨st.snaps, ?_, st.posts, ?_⟩
  · rw [st.snaps]; exact st.snaps_nodup
  · rw [st.snaps, st.posts]; exact mt st.snaps_need_posts

/-- ... and, in the same accepted history, the preconditions are those of `C04_dag_effective_contracts`: the snapshots
do not disturb the Liskov combination of the preconditions. -/
theorem C08_dag_preconditions_unchanged (names : List (Nat × String)) (ds : List ClassDefS) (hwf : HistWfS ds)
    (w : World) (h : buildHistS { snapNames := names } 1 ds = .ok w) :
    ∀ i (hi : i < ds.length) (key : String) (l : LevelS), (key, l) ∈ (ds[i]).members →
      preOf w l.f = (specPreAt w (declsOfS ds) (ds.length + 1) (i + 1) key 0).getD [] :=
  fun i hi key l hl => (buildHistS_observe hwf h i hi key l hl).pre

/-- non-vacuity: a chain with a gap (class 3 re-binds `m` without any snapshot, and brings a second member whose
snapshot re-uses the name `a` - on another function, which is allowed), evaluated by the kernel -/
example :
    (match buildHistS { snapNames := [(500, "a"), (501, "b"), (502, "a"), (503, "c")] } 1
        [⟨[], [("m", ⟨10, [1], [7], [500]⟩)]⟩, ⟨[1], [("m", ⟨12, [2], [8], [501]⟩)]⟩,
         ⟨[2], [("m", ⟨14, [3], [], []⟩), ("n", ⟨15, [], [9], [502]⟩)]⟩, ⟨[3], [("m", ⟨16, [], [4], [503]⟩)]⟩] with
     | .ok w => (snapsOf w 16, (snapsOf w 16).map (snapName w), postsOf w 16, snapsOf w 14, snapsOf w 15, snapsOf w 10)
     | .error _ => ([], [], [], [], [], [])) =
      ([500, 501, 503], ["a", "b", "c"], [7, 8, 4], [500, 501], [502], [500]) := by decide +kernel

/-- ... and this history is well-formed, so the hypotheses of the theorem are satisfiable -/
example : HistWfS [⟨[], [("m", ⟨10, [1], [7], [500]⟩)]⟩, ⟨[1], [("m", ⟨12, [2], [8], [501]⟩)]⟩,
         ⟨[2], [("m", ⟨14, [3], [], []⟩), ("n", ⟨15, [], [9], [502]⟩)]⟩, ⟨[3], [("m", ⟨16, [], [4], [503]⟩)]⟩] := by
  unfold HistWfS
  decide +kernel

/-- the diamond: snapshot `a` of class 1 reaches class 4 over both bases - the class statement is refused -/
example :
    (match buildHistS { snapNames := [(500, "a"), (501, "b"), (502, "a"), (503, "c")] } 1
        [⟨[], [("m", ⟨10, [1], [7], [500]⟩)]⟩, ⟨[1], [("m", ⟨12, [2], [8], [501]⟩)]⟩, ⟨[1], []⟩,
         ⟨[2, 3], [("m", ⟨14, [3], [5], [503]⟩)]⟩] with
     | .ok _ => none
     | .error e => some e) = some (.valueErrorDuplicateSnapshot "a") := by decide +kernel

/-- ... although that history is well-formed too: the rejection is the metaclass's, not the hypothesis's -/
example : HistWfS [⟨[], [("m", ⟨10, [1], [7], [500]⟩)]⟩, ⟨[1], [("m", ⟨12, [2], [8], [501]⟩)]⟩, ⟨[1], []⟩,
         ⟨[2, 3], [("m", ⟨14, [3], [5], [503]⟩)]⟩] := by
  unfold HistWfS
  decide +kernel

/-- `firstDuplicate` finds a name exactly when the names are not pairwise distinct -/
theorem C08_firstDuplicate_iff_not_nodup (w : World) (snaps : List Nat) :
    (∃ n, firstDuplicate w snaps = some n) ↔ ¬ (snaps.map (snapName w)).Nodup :=
  firstDuplicate_some_iff w snaps

/-- **Conversely, a member that would inherit / declare two snapshots of the same name is refused at the class
definition.**  One step of the namespace pass: whenever the snapshots collected from the bases followed by the
function's own ones contain a repeated NAME - and the weakening rule does not already reject the class - the collapse
fails with `valueErrorDuplicateSnapshot` (so, by `C08_dag_snapshots_inherited`, acceptance and distinct names are
equivalent at every member). -/
theorem C08_duplicate_snapshot_names_rejected (w : World)
    (key : String) (f : FnId) (bSnaps : List Nat) (have_ : Bool) (bPre bPosts : List Nat)
    (hdup : ¬ ((bSnaps ++ (match w.checker? f with | some ck => w.heap.get ck.snaps | none => [])).map (snapName w)).Nodup)
    (hnw : ¬ (bPre.isEmpty = true ∧ have_ = true ∧
              (match w.checker? f with | some ck => w.heap.get ck.pre | none => []).isEmpty = false)) :
    ∃ n, decorateOne w key f true (have_, bPre, bSnaps, bPosts) = .error (.valueErrorDuplicateSnapshot n) := by
  obtain ⟨n, hn⟩ := (firstDuplicate_some_iff w _).mpr hdup
  refine ⟨n, ?_⟩
  rw [decorateOne_eq, if_neg, show firstDuplicate w (bSnaps ++ ownSnaps w f) = some n from hn]
  rintro ⟨h1, h2, h3⟩
  refine hnw ⟨List.isEmpty_iff.mpr h1, h2, ?_⟩
  cases ho : ownPre w f with
  | nil => exact absurd ho h3
  | cons _ _ => exact congrArg List.isEmpty ho

/-- ... and the other direction of that step: an accepted member's collected and own snapshots have pairwise distinct
names -/
theorem C08_accepted_member_has_distinct_snapshot_names (w w' : World) (key : String) (f : FnId) (have_ : Bool)
    (bPre bSnaps bPosts : List Nat)
    (h : decorateOne w key f true (have_, bPre, bSnaps, bPosts) = .ok w') :
    ((bSnaps ++ (match w.checker? f with | some ck => w.heap.get ck.snaps | none => [])).map (snapName w)).Nodup :=
  (firstDuplicate_none_iff w _).mp (decorateOne_spec h).2.1

end Icontract.Meta
