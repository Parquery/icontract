/-
  C13 - async callables get the same contract semantics as sync ones.
-/
import IcontractModel.Spec.Trace
import IcontractModel.Lemmas.Strip
namespace Icontract
open Res

/-- **The async wrapper is the sync wrapper on the awaited program**: for every checker, every oracle
`o` and every oracle `o'` that is `o` with all awaitables already awaited, the async checked path —
with its await events removed — produces exactly the trace and the outcome of the sync checked
path of the plain (non-coroutine) rendering of the same checker under `o'`. -/
theorem C13_async_equals_sync_on_awaited (ck : Checker) (o o' : Oracle) (call : Call)
    (h : AwaitedOracle ck o o') :
    (checkedAsync ck o call).stripAwait = checkedSync ck.plain o' call := by
  have hmem : ∀ g ∈ ck.pre, ∀ c ∈ g, c ∈ ck.contracts := fun g hg c hc =>
    List.mem_append_left _ (List.mem_flatten.mpr ⟨g, hg, hc⟩)
  rw [checkedAsync_eq, checkedSync_eq]
  exact checkedG_strip (h := asyncHooks o) (h' := syncHooks o')
    (fun kw g hg c hc => evalCond_strip (h.cond c (hmem g hg c hc)) (h.condPlain c (hmem g hg c hc)))
    (fun kw c hc => (evalCond_strip (h.cond c (List.mem_append_right _ hc))
      (h.condPlain c (List.mem_append_right _ hc))).trans evalPostSync_plain.symm)
    (fun kw acc => captureOld_strip (fun s hs => ⟨h.capture s hs, h.capturePlain s hs⟩) kw acc)
    h.body h.fac h.msg

/-- The same for the whole wrappers, including the in-progress bookkeeping. -/
theorem C13_wrappers_agree (ck : Checker) (o o' : Oracle) (s : IdSet) (call : Call)
    (h : AwaitedOracle ck o o') :
    ((callAsync ck o s call).1.stripAwait, (callAsync ck o s call).2) =
    ((callSync ck.plain o' s call).1, (callSync ck.plain o' s call).2) := by
  cases hk : assertNoInvalidKwargs call.kwargs with
  | some e => rw [callAsync_of_invalid hk, callSync_of_invalid hk]; rfl
  | none =>
    cases hs : s.contains ck.fid with
    | true =>
      rw [callAsync_of_inProgress hk hs, callSync_of_inProgress (ck := ck.plain) hk hs, runBody_stripAwait,
        runBody_congr h.body]
      rfl
    | false =>
      rw [callAsync_eq hs, callSync_eq (ck := ck.plain) hs, hk,
        C13_async_equals_sync_on_awaited ck o o' call h]

/-- On a sync callable a coroutine-function condition, or a condition that returns a coroutine, is
rejected with ValueError — it is never judged (no truth test, never `ok`). -/
theorem C13_sync_rejects_coroutine_precondition (o : Oracle) (kw : Kwargs) (c : Contract)
    (hm : (missingNames c.mandatory kw).isEmpty = true)
    (hc : c.coroFn = true ∨ (o.cond c.id).isCoro = true) :
    (∃ k, (evalPreSync o kw c).out = .error (.valueErr k none)) ∧
    (∀ ev ∈ (evalPreSync o kw c).trace, ev ≠ .boolTest c.id) := by
  rw [evalPreSync_eq, selectConditionKwargs_eq, if_pos hm, pure_bind']
  cases hcf : c.coroFn with
  | true => exact ⟨⟨_, rfl⟩, fun _ h => by cases h⟩
  | false =>
    cases ha : o.cond c.id with
    | coro a => exact ⟨⟨_, rfl⟩, fun _ h => by cases List.mem_singleton.mp h; exact nofun⟩
    | val v t => rw [hcf, ha] at hc; rcases hc with hc | hc <;> cases hc
    | raises e => rw [hcf, ha] at hc; rcases hc with hc | hc <;> cases hc

theorem C13_sync_rejects_coroutine_postcondition (o : Oracle) (kw : Kwargs) (c : Contract)
    (hm : (missingNames c.mandatory kw).isEmpty = true)
    (hc : c.coroFn = true ∨ (o.cond c.id).isCoro = true) :
    (∃ k, (evalPostSync o kw c).out = .error (.valueErr k none)) ∧
    (∀ ev ∈ (evalPostSync o kw c).trace, ev ≠ .boolTest c.id) := by
  rw [evalPostSync_eq]
  split
  · exact ⟨⟨_, rfl⟩, fun _ h => by cases h⟩
  · exact C13_sync_rejects_coroutine_precondition o kw c hm hc

/-- Class invariants are evaluated synchronously (also around `async def` methods): an invariant whose condition
returns a coroutine is rejected with ValueError - it is never taken as truthy, never truth-tested. -/
theorem C13_invariant_rejects_coroutine_condition (o : Oracle) (kw : Kwargs) (c : Contract) (cs : List Contract)
    (hm : (missingNames c.mandatory kw).isEmpty = true)
    (hc : (o.cond c.id).isCoro = true) :
    (assertInvariants o kw (c :: cs)).out = .error (.valueErr (.coroCondOnSync c.id) none) ∧
    (∀ ev ∈ (assertInvariants o kw (c :: cs)).trace, ev ≠ .boolTest c.id) := by
  have hev : evalInvariant o kw c =
      ⟨[.cond c.id (kw.restrict c.args)], .error (.valueErr (.coroCondOnSync c.id) none)⟩ := by
    rw [evalInvariant_eq, evalPreSync_eq, selectConditionKwargs_eq, if_pos hm, pure_bind']
    cases ha : o.cond c.id with
    | coro a => rfl
    | val v t => rw [ha] at hc; cases hc
    | raises e => rw [ha] at hc; cases hc
  rw [assertInvariants, hev]
  refine ⟨rfl, fun ev h => ?_⟩
  cases List.mem_singleton.mp h
  exact fun h => by cases h

theorem C13_sync_rejects_coroutine_capture (o : Oracle) (kw : Kwargs) (acc : List (String × Id))
    (s : Snapshot) (ss : List Snapshot)
    (hm : (missingNames s.args kw).isEmpty = true)
    (hc : s.coroFn = true ∨ (o.capture s.id).isCoro = true) :
    ∃ k, (captureOldSync o kw acc (s :: ss)).out = .error (.valueErr k none) := by
  rw [captureOldSync_cons, selectCaptureKwargs_eq, if_pos hm]
  cases hcf : s.coroFn with
  | true => exact ⟨_, rfl⟩
  | false =>
    cases ha : o.capture s.id with
    | coro a => exact ⟨_, rfl⟩
    | val v t => rw [hcf, ha] at hc; rcases hc with hc | hc <;> cases hc
    | raises e => rw [hcf, ha] at hc; rcases hc with hc | hc <;> cases hc

end Icontract
