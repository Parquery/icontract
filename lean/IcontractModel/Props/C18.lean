/-
  C18 - introspection data tells integrators the truth.
  In the model the wrapper takes its three lists as arguments at call time (`Checker.pre/snaps/posts`
  are what `_unpack_pre_snap_posts` reads from the checker's attributes - no private copy), so
  "judging a call by hand over the introspected lists" is a Boolean function of the same lists; the
  theorems say it gives the wrapper's verdict.  The registration hook is part of `Meta.defineClass`.
-/
import IcontractModel.Props.C01
import IcontractModel.Props.C02
import IcontractModel.Meta
import IcontractModel.Lemmas.MetaClass
namespace Icontract

/-- the documented integrators' loop over `__preconditions__` -/
def manualPre (isAsync : Bool) (o : Oracle) (kw : Kwargs) (groups : List (List Contract)) : Bool :=
  groups.isEmpty || groups.any (fun g => g.all (fun c => condTruthy isAsync o kw c))

/-- the documented integrators' loop over `__postconditions__` -/
def manualPost (isAsync : Bool) (o : Oracle) (kw : Kwargs) (posts : List Contract) : Bool :=
  posts.all (fun c => condTruthy isAsync o kw c)

theorem C18_manual_precondition_is_dnf (isAsync : Bool) (o : Oracle) (kw : Kwargs) (groups : List (List Contract)) :
    manualPre isAsync o kw groups = true ↔ dnfHolds isAsync o kw groups := by
  unfold manualPre dnfHolds
  simp only [Bool.or_eq_true, List.isEmpty_iff, List.any_eq_true, List.all_eq_true]

/-- **Judging the preconditions by hand gives the wrapper's verdict** (sync): the body is entered iff
the manual evaluation over the introspected groups succeeds. -/
theorem C18_sync_manual_precondition_verdict (ck : Checker) (o : Oracle) (call : Call)
    (hvalid : assertResolvedKwargsValid (!ck.posts.isEmpty) (resolved ck call) = none)
    (htot : ∀ g ∈ ck.pre, totalOn false o (resolved ck call) g)
    (hcap : ∃ old, (captureOldSync o (resolved ck call) [] ck.snaps).out = .ok old) :
    manualPre false o (resolved ck call) ck.pre = true ↔ bodyEntered (checkedSync ck o call).trace := by
  rw [C18_manual_precondition_is_dnf]
  exact ⟨C01_sync_body_if_pre_holds ck o call hvalid htot hcap, C01_sync_body_only_if_pre_holds ck o call⟩

theorem C18_async_manual_precondition_verdict (ck : Checker) (o : Oracle) (call : Call)
    (hvalid : assertResolvedKwargsValid (!ck.posts.isEmpty) (resolved ck call) = none)
    (htot : ∀ g ∈ ck.pre, totalOn true o (resolved ck call) g)
    (hcap : ∃ old, (captureOldAsync o (resolved ck call) [] ck.snaps).out = .ok old) :
    manualPre true o (resolved ck call) ck.pre = true ↔ bodyEntered (checkedAsync ck o call).trace := by
  rw [C18_manual_precondition_is_dnf]
  exact ⟨C01_async_body_if_pre_holds ck o call hvalid htot hcap, C01_async_body_only_if_pre_holds ck o call⟩

/-- **Judging the postconditions by hand gives the wrapper's verdict** (sync): once the body is reached
and returns `v`, the call returns `v` iff the manual evaluation over the introspected postconditions
(against the arguments, `result` and `OLD`) succeeds. -/
theorem C18_sync_manual_postcondition_verdict (ck : Checker) (o : Oracle) (call : Call)
    (old : List (String × Id)) (h : ReachesBodySync ck o call old) (v : Id) (hb : o.body = .ret v)
    (htot : totalOn false o ((kwAtBody ck (resolved ck call) old).set "result" (.obj v)) ck.posts)
    (herr : ∀ c ∈ ck.posts, ∃ err, errorOf o ((kwAtBody ck (resolved ck call) old).set "result" (.obj v)) c = some err) :
    manualPost false o ((kwAtBody ck (resolved ck call) old).set "result" (.obj v)) ck.posts = true ↔
      (checkedSync ck o call).out = .ok v := by
  refine ⟨fun hm => C02_sync_returns_body_result ck o call old h v hb fun c hc => List.all_eq_true.mp hm c hc,
    fun hout => ?_⟩
  cases hff : firstFalsy false o ((kwAtBody ck (resolved ck call) old).set "result" (.obj v)) ck.posts with
  | none => exact List.all_eq_true.mpr fun c hc => by simpa using List.find?_eq_none.mp hff c hc
  | some c =>
    obtain ⟨err, he⟩ := herr c (List.mem_of_find?_eq_some hff)
    rw [C02_sync_first_falsy_postcondition_raises ck o call old h v hb htot c hff err he] at hout
    cases hout

open Meta in
/-- **Every class created through the metaclass is announced exactly once** to the registration hook ... -/
theorem C18_hook_called_once_per_class (w w' : World) (k : ClsId) (bases : List ClsId)
    (ns : List (String × Member)) (h : defineClass w k bases ns true true = .ok w') :
    w'.hookCalls = w.hookCalls ++ [k] := by
  simpa using defineClass_hookCalls h

open Meta in
/-- ... plain classes are not announced, and neither are decorations -/
theorem C18_hook_not_called_otherwise (w w' : World) (k : ClsId) (bases : List ClsId)
    (ns : List (String × Member)) (f : FnId) (c : CId) (on : CheckOn)
    (h : defineClass w k bases ns false true = .ok w') :
    w'.hookCalls = w.hookCalls ∧ (addPre w f c).hookCalls = w.hookCalls ∧ (addPost w f c).hookCalls = w.hookCalls ∧
    (addInvariant w k c on).hookCalls = w.hookCalls := by
  refine ⟨by simpa using defineClass_hookCalls h, ?_, ?_, ?_⟩
  · cases h : w.checker? f with
    | none => rw [addPre_fresh_eq c h]; rfl
    | some ck => rw [addPre_of_checker c h]; split <;> rfl
  · cases h : w.checker? f with
    | none => rw [addPost_fresh_eq c h]; rfl
    | some ck => rw [addPost_of_checker c h]
  · exact (addInvariant_fields w k c on).2

end Icontract
