/-
  C06 - every value shown in a violation message is the value Python computes.
  `pyEval` (Spec/PyEval.lean) is Python's own evaluation, `visit` (Recompute.lean) the
  re-evaluator, both for arbitrary operator / call / attribute / subscript / truth semantics `ops`.

  WELL-FORMEDNESS.  The re-evaluation theorems carry the hypothesis `e.wf = true` (Lemmas/ExprWf.lean):
  outside comprehension scopes every `boolop` has an operand and every `compare` has a link - the grammar
  of Python's `ast` (`BoolOp.values` has >= 2 entries, `Compare.ops` >= 1), which the inductive type `Expr`
  does not enforce by itself.  The hypothesis is necessary: for `.boolop 0 true []` the statements are false
  (machine-checked refutations in Lemmas/ReevalCounterexamples.lean, namespace `Cex`).  The driver reports
  `wf` and `idsNodup` for every translated condition, and the harness requires both to be true, so the
  hypotheses hold on everything the correspondence check exercises.

  ORDER (second version of the model).  The re-evaluator visits a dictionary item `k: v` value-first and a formatted
  value `{e:spec}` specification-first, Python the other way round: in general the recorded log is a PERMUTATION of
  Python's (`C06_recomputed_values_are_pythons`); it is Python's log itself when the condition has no keyed dictionary
  item and no format specification outside comprehension scopes (`Expr.orderFaithful`,
  `C06_recomputed_in_pythons_order`).  That the difference is real: `C07_dict_items_are_visited_value_first`.
-/
import IcontractModel.Spec.PyEval
import IcontractModel.Represent
import IcontractModel.Lemmas.ReevalMain
import IcontractModel.Lemmas.ReprLines
import IcontractModel.Lemmas.ReevalCounterexamples
import IcontractModel.Lemmas.Lookup
import IcontractModel.Lemmas.CondLookup
import IcontractModel.Lemmas.ReprPairs
import IcontractModel.AllTrace
namespace Icontract.Ex

/-- **The re-evaluator computes, node by node, exactly what Python computes.**  For every well-formed
expression with distinct node ids, every `ops` and every environment in which Python evaluates the
condition to `v` with log `P`: the re-evaluation succeeds with the same value, and what it records for
the nodes outside comprehension scopes is exactly Python's log as a multiset - same nodes, same values, each as often.
The ORDER may differ: a dictionary item `k: v` is visited value-first, a formatted value specification-first. -/
theorem C06_recomputed_values_are_pythons (ops : Ops) (env : Env) (e : Expr) (v : Val) (P : Log)
    (hwf : e.wf = true)
    (hid : (allIds e).Nodup) (h : pyEval ops env e = .ok (v, P)) :
    (visit ops env.builtins (Tbl.ofNames env.names) e).out = .ok (some v) ∧
    ((visit ops env.builtins (Tbl.ofNames env.names) e).log.filter (fun p => !(innerIds e).contains p.1)).Perm P := by
  have hv := (visit_py e false (Side.of_nodup hwf nofun hid)).run h
  exact ⟨hv.1, hv.2.perm⟩

/-- without a keyed dictionary item and without a format specification even the ORDER is Python's -/
theorem C06_recomputed_in_pythons_order (ops : Ops) (env : Env) (e : Expr) (v : Val) (P : Log)
    (hwf : e.wf = true) (hof : e.orderFaithful = true)
    (hid : (allIds e).Nodup) (h : pyEval ops env e = .ok (v, P)) :
    (visit ops env.builtins (Tbl.ofNames env.names) e).log.filter (fun p => !(innerIds e).contains p.1) = P :=
  ((visit_py e true (Side.of_nodup hwf (fun _ => hof) hid)).run h).2.eq

/-- hence every recorded value of a node outside comprehension scopes is the value Python computed
for that very node (soundness of every `<expression> was <value>` line) -/
theorem C06_every_recorded_value_is_pythons (ops : Ops) (env : Env) (e : Expr) (v : Val) (P : Log)
    (hwf : e.wf = true)
    (hid : (allIds e).Nodup) (h : pyEval ops env e = .ok (v, P)) :
    ∀ p ∈ (visit ops env.builtins (Tbl.ofNames env.names) e).log, (innerIds e).contains p.1 = false → p ∈ P := by
  intro p hp hc
  rw [← (C06_recomputed_values_are_pythons ops env e v P hwf hid h).2.mem_iff]
  exact List.mem_filter.mpr ⟨hp, by rw [hc]; rfl⟩

/-- ... and everything Python evaluated outside comprehension scopes is recorded (completeness) -/
theorem C06_everything_python_evaluated_is_recorded (ops : Ops) (env : Env) (e : Expr) (v : Val) (P : Log)
    (hwf : e.wf = true)
    (hid : (allIds e).Nodup) (h : pyEval ops env e = .ok (v, P)) :
    ∀ p ∈ P, p ∈ (visit ops env.builtins (Tbl.ofNames env.names) e).log := by
  intro p hp
  rw [← (C06_recomputed_values_are_pythons ops env e v P hwf hid h).2.mem_iff] at hp
  exact (List.mem_filter.mp hp).1

/-- the iterable of a comprehension's first `for` is evaluated by Python in the enclosing scope: everything Python
evaluates there (outside comprehensions nested in it) is recorded by the re-evaluator with Python's value, whatever
the comprehension's targets are called -/
theorem C06_first_iterable_is_recorded (ops : Ops) (env : Env) (i : Nat) (targets : List String) (first : Expr)
    (inner : List Expr) (v : Val) (P : Log)
    (hwf : first.wf = true) (hid : (allIds (.comp i targets first inner)).Nodup)
    (h : pyEval ops env (.comp i targets first inner) = .ok (v, P)) :
    ∃ v0 P0, pyEval ops env first = .ok (v0, P0) ∧
      ∀ p ∈ P0, p ∈ (visit ops env.builtins (Tbl.ofNames env.names) (.comp i targets first inner)).log := by
  have hrec := C06_everything_python_evaluated_is_recorded ops env (.comp i targets first inner) v P hwf hid h
  unfold pyEval at h
  obtain ⟨⟨v0, P0⟩, h0, h⟩ := Except.bind_eq_ok_iff.mp h
  obtain ⟨r, _, h⟩ := Except.bind_eq_ok_iff.mp h
  cases h
  exact ⟨v0, P0, h0, fun p hp => hrec p (List.mem_append_left _ hp)⟩

/-- non-vacuity: `[s for s in s]` - the target is called like the name used in the first iterable; the comprehension's
native execution (here: it yields the elements of `s`) is some concrete `Ops.comp` -/
def opsFirst : Ops :=
  { Cex.ops0 with comp := fun _ names => .ok (match lookup names "s" with | some x => x | none => .none) }

def exFirst : Expr := .comp 0 ["s"] (.name 1 "s") [.name 2 "s"]

def envFirst : Env := ⟨[("s", .list [.int 1, .int 2])], []⟩

example : (Expr.name 1 "s").wf = true := by rfl
example : (allIds exFirst).Nodup := by decide +kernel
example : pyEval opsFirst envFirst exFirst =
    .ok (.list [.int 1, .int 2], [(1, .list [.int 1, .int 2]), (0, .list [.int 1, .int 2])]) := by rfl
/-- the first iterable `s` (node 1) is recorded with its value in the enclosing scope, the element `s` (node 2: the
target) is not -/
example : (visit opsFirst envFirst.builtins (Tbl.ofNames envFirst.names) exFirst).log =
    [(1, .list [.int 1, .int 2]), (0, .list [.int 1, .int 2])] := by rfl
example : ((1, Val.list [.int 1, .int 2]) : Nat × Val) ∈
    (visit opsFirst envFirst.builtins (Tbl.ofNames envFirst.names) exFirst).log := by
  obtain ⟨v0, P0, h0, hP⟩ := C06_first_iterable_is_recorded opsFirst envFirst 0 ["s"] (.name 1 "s") [.name 2 "s"] _ _ rfl
    (by decide +kernel) rfl
  cases h0
  exact hP _ List.mem_cons_self

/-- non-vacuity for the forms of the second version: the condition
`(g((1, *xs), xs[1:n], *xs, k=n, **d), f"v={n!r}")` - a display with a starred element, a call with a starred argument,
a keyword and `**`, a slice, an f-string with a formatted value - is well-formed, has distinct ids, and Python
evaluates it (with the concrete `Cex.ops0`) -/
def exV2 : Expr :=
  .coll 0 .tuple [
    .callkw 1 (.name 2 "g")
      [.coll 3 .tuple [.const 4 (.int 1), .starred 5 (.name 6 "xs")],
       .subscr 7 (.name 8 "xs") (.slice 9 (some (.const 10 (.int 1))) (some (.name 11 "n")) none),
       .starred 12 (.name 13 "xs")]
      [(some "k", .name 14 "n"), (none, .name 15 "d")],
    .fstring 16 [.const 17 (.str "v="), .fvalue 18 (.name 19 "n") .r none]]

def envV2 : Env :=
  ⟨[("xs", .list [.int 7, .int 8]), ("n", .int 2), ("d", .dict [.str "z"] [.int 3])], [("g", .fn "g")]⟩

example : exV2.wf = true := by rfl
example : exV2.orderFaithful = true := by rfl
example : (allIds exV2).Nodup := by decide +kernel
example : pyEval Cex.ops0 envV2 exV2 = .ok (.tuple [.fn "g", .str "v=2"],
    [(2, .fn "g"), (4, .int 1), (6, .list [.int 7, .int 8]), (3, .tuple [.int 1, .int 7, .int 8]),
     (8, .list [.int 7, .int 8]), (10, .int 1), (11, .int 2), (9, .slice (.int 1) (.int 2) .none),
     (7, .list [.int 7, .int 8]), (13, .list [.int 7, .int 8]), (14, .int 2), (15, .dict [.str "z"] [.int 3]),
     (1, .fn "g"), (17, .str "v="), (19, .int 2), (16, .str "v=2"), (0, .tuple [.fn "g", .str "v=2"])]) := by rfl
/-- ... and the re-evaluation records the same log -/
example : (visit Cex.ops0 envV2.builtins (Tbl.ofNames envV2.names) exV2).log =
    [(2, .fn "g"), (4, .int 1), (6, .list [.int 7, .int 8]), (3, .tuple [.int 1, .int 7, .int 8]),
     (8, .list [.int 7, .int 8]), (10, .int 1), (11, .int 2), (9, .slice (.int 1) (.int 2) .none),
     (7, .list [.int 7, .int 8]), (13, .list [.int 7, .int 8]), (14, .int 2), (15, .dict [.str "z"] [.int 3]),
     (1, .fn "g"), (17, .str "v="), (19, .int 2), (16, .str "v=2"), (0, .tuple [.fn "g", .str "v=2"])] := by rfl

/-- a keyed dictionary item and a format specification (not order-faithful): still well-formed and evaluated -/
def exV2' : Expr :=
  .dict 0 [(some (.name 1 "n"), .fstring 2 [.fvalue 3 (.name 4 "n") .none (some (.fstring 5 [.const 6 (.str "d")]))]),
           (none, .name 7 "d")]

example : exV2'.wf = true := by rfl
example : exV2'.orderFaithful = false := by rfl
example : (allIds exV2').Nodup := by decide +kernel
example : pyEval Cex.ops0 envV2 exV2' = .ok (.dict [.int 2, .str "z"] [.str "2", .int 3],
    [(1, .int 2), (4, .int 2), (6, .str "d"), (5, .str "d"), (2, .str "2"), (7, .dict [.str "z"] [.int 3]),
     (0, .dict [.int 2, .str "z"] [.str "2", .int 3])]) := by rfl
example : (visit Cex.ops0 envV2.builtins (Tbl.ofNames envV2.names) exV2').log =
    [(6, .str "d"), (5, .str "d"), (4, .int 2), (2, .str "2"), (1, .int 2), (7, .dict [.str "z"] [.int 3]),
     (0, .dict [.int 2, .str "z"] [.str "2", .int 3])] := by rfl

/-- a line is produced only from a recorded value: names / attributes whose value is a class, function,
method, module or builtin get none, builtin names get none -/
theorem C06_lines_come_from_recorded_values (text : Nat → String) (isLookupName : String → Bool) (R : Log) (e : Expr)
    (k : String) (x : Val) (h : (k, x) ∈ collectLines text isLookupName R [] e) :
    ∃ i, k = text i ∧ (i, x) ∈ R :=
  collectLines_from text isLookupName R e [] (fun _ _ hm => by cases hm) k x h

/-- an f-string gets at most ONE line, for the whole string: its internals are never listed
(`visit_JoinedStr` of the representation visitor does not descend) -/
theorem C06_fstring_internals_get_no_line (text : Nat → String) (isLookupName : String → Bool) (R : Log)
    (i : Nat) (parts : List Expr) (k : String) (x : Val)
    (h : (k, x) ∈ collectLines text isLookupName R [] (.fstring i parts)) : k = text i ∧ recorded R i = some x := by
  unfold collectLines at h
  cases hr : recorded R i with
  | none => rw [hr] at h; cases h
  | some v =>
    rw [hr] at h
    dsimp only at h
    split at h
    · cases List.mem_singleton.mp h
      exact ⟨rfl, rfl⟩
    · cases h

/-- **Arguments shadow closure variables, which shadow globals**: the re-evaluator's name table, merged from the
look-ups "first one wins", resolves every name exactly as Python's scoping does - whatever the look-ups contain
(names occurring in several of them, with different values). -/
theorem C06_names_resolve_as_in_python (ls : List (List (String × Val))) (n : String) :
    lookupT (Tbl.ofLookups ls) n = (lookup (pyScope ls) n).map some :=
  Tbl.ofLookups_eq ls ▸ lookupT_addLookup (pyScope ls) [] n

/-- **The name table of a call is Python's scoping of the condition**: for every condition (parameters with and without
defaults), every set of arguments of the decorated function's call - also arguments the condition does not take, named
like its closure variables or globals -, every closure and every module, each name means to the re-evaluator what it
means to Python: a parameter is the argument passed for it, else its default; any other name is the closure variable,
else the global. -/
theorem C06_call_names_resolve_as_in_python (params : List CondParam) (kwargs closure globals : List (String × Val))
    (n : String) (hnodup : (params.map (·.1)).Nodup)
    (hbound : ∀ q ∈ params, q.2 = none → (lookup kwargs q.1).isSome) :
    lookupT (Tbl.ofCall params kwargs closure globals) n = (pyResolve params kwargs closure globals n).map some := by
  rw [lookupT_ofCall, lookup_condLookup params kwargs n hnodup]
  unfold pyResolve
  cases hf : params.find? (fun q => q.1 == n) with
  | none => cases lookup closure n <;> rfl
  | some q =>
    obtain ⟨k, d?⟩ := q
    cases hk : lookup kwargs n with
    | some v => rfl
    | none =>
      cases d? with
      | some d => rfl
      | none =>
        -- a parameter without a default is supplied by the call
        have hs := hbound _ (List.mem_of_find?_eq_some hf) rfl
        rw [eq_of_beq (List.find?_some (p := fun q : CondParam => q.1 == n) hf), hk] at hs
        cases hs

/-- **The whole chain for a call.**  The re-evaluator run on the table the library builds for a call
(`Tbl.ofCall`: the arguments the condition takes, the defaults of its other parameters, its closure, its globals) computes
Python's value and records Python's values, where "Python" evaluates the condition in the scope in which every name means
what `pyResolve` says: a parameter is the argument passed for it, else its default; any other name is the closure variable,
else the global - whatever else the call of the decorated function carried. -/
theorem C06_call_recomputed_values_are_pythons (ops : Ops) (bi : List (String × Val))
    (params : List CondParam) (kwargs closure globals : List (String × Val)) (e : Expr) (v : Val) (P : Log)
    (hnodup : (params.map (·.1)).Nodup) (hbound : ∀ q ∈ params, q.2 = none → (lookup kwargs q.1).isSome)
    (hwf : e.wf = true) (hid : (allIds e).Nodup)
    (h : pyEval ops ⟨(Tbl.ofCall params kwargs closure globals).values, bi⟩ e = .ok (v, P)) :
    (∀ n, lookup (Tbl.ofCall params kwargs closure globals).values n = pyResolve params kwargs closure globals n) ∧
    (visit ops bi (Tbl.ofCall params kwargs closure globals) e).out = .ok (some v) ∧
    ((visit ops bi (Tbl.ofCall params kwargs closure globals) e).log.filter (fun p => !(innerIds e).contains p.1)).Perm P := by
  have hT : Tbl.ofNames (Tbl.ofCall params kwargs closure globals).values = Tbl.ofCall params kwargs closure globals :=
    ofNames_values_ofLookups _
  refine ⟨fun n => Option.map_injective (fun _ _ => Option.some.inj) ?_, ?_⟩
  · rw [← lookupT_ofNames, hT]
    exact C06_call_names_resolve_as_in_python params kwargs closure globals n hnodup hbound
  · have hm := C06_recomputed_values_are_pythons ops ⟨(Tbl.ofCall params kwargs closure globals).values, bi⟩ e v P hwf hid h
    simp only [hT] at hm
    exact hm

/-- an argument of the call which the condition does not take never shadows the condition's closure / global variable of
that name (the defect repaired by e84b442) ... -/
theorem C06_foreign_arguments_do_not_shadow (params : List CondParam) (kwargs kwargs' closure globals : List (String × Val))
    (n : String) (hn : params.all (fun q => q.1 != n) = true) :
    lookupT (Tbl.ofCall params kwargs closure globals) n = lookupT (Tbl.ofCall params kwargs' closure globals) n := by
  have hne : ∀ q ∈ params, q.1 ≠ n := fun q hq => bne_iff_ne.mp (List.all_eq_true.mp hn q hq)
  rw [lookupT_ofCall, lookupT_ofCall, lookup_condLookup_foreign params kwargs n hne,
    lookup_condLookup_foreign params kwargs' n hne]

/-- ... and a parameter of the condition's own which the call does not supply is known with its default value (the defect
repaired by dece18e) -/
theorem C06_defaults_are_visible (params : List CondParam) (kwargs closure globals : List (String × Val))
    (n : String) (d : Val) (hnodup : (params.map (·.1)).Nodup) (hp : (n, some d) ∈ params) (hk : lookup kwargs n = none) :
    lookupT (Tbl.ofCall params kwargs closure globals) n = some (some d) := by
  rw [lookupT_ofCall, lookup_condLookup params kwargs n hnodup]
  have hf : params.find? (fun q => q.1 == n) = some (n, some d) :=
    find?_of_nodup_map Prod.fst (n, some d) params hnodup hp
  rw [hf, hk]
  rfl

/-- the table as upstream built it - every argument of the call a variable of the condition, no defaults - was not Python's
scoping: `lambda x, lower=0: x > y + lower` on `def f(x, y)` called `f(5, 1)` with a global `y = 100` -/
theorem C06_upstream_table_was_not_pythons :
    let params : List CondParam := [("x", none), ("lower", some (.int 0))]
    let kwargs : List (String × Val) := [("x", .int 5), ("y", .int 1)]
    let globals : List (String × Val) := [("y", .int 100)]
    lookupT (Tbl.ofCallUpstream kwargs [] globals) "y" = some (some (.int 1)) ∧ pyResolve params kwargs [] globals "y" = some (.int 100) ∧
    lookupT (Tbl.ofCallUpstream kwargs [] globals) "lower" = none ∧ pyResolve params kwargs [] globals "lower" = some (.int 0) ∧
    lookupT (Tbl.ofCall params kwargs [] globals) "y" = some (some (.int 100)) ∧
    lookupT (Tbl.ofCall params kwargs [] globals) "lower" = some (some (.int 0)) :=
  ⟨rfl, rfl, rfl, rfl, rfl, rfl⟩

/-- **Every representable argument of the call is listed** - with one exception, which is exactly the known finding
`argument-hidden-by-same-named-variable`: a message has one line per expression text, so an argument whose NAME is
already the text of a line (the condition reads a variable of that name) gets no second line. -/
theorem C06_every_argument_listed_or_its_name_is_a_line (lines : List (String × Val)) (condParams : List String)
    (kw : List (String × Val)) (k : String) (v : Val)
    (hkw : (k, v) ∈ kw) (hd : (kw.map (·.1)).Nodup) (hr : representable v = true)
    (hk : (k ≠ "_ARGS" ∧ k ≠ "_KWARGS") ∨ condParams.contains k = true) :
    (k, v) ∈ reprPairs lines condParams kw ∨ ∃ v', (k, v') ∈ lines := by
  have hsel : (k, v) ∈ selectKwargs condParams kw :=
    mem_selectKwargs.mpr ⟨hkw, fun ha => hk.elim (fun h => absurd ha h.1) (fun h => ha ▸ h),
      fun hb => hk.elim (fun h => absurd hb h.2) (fun h => hb ▸ h)⟩
  obtain ⟨⟨k', v'⟩, hq, (rfl : k' = k)⟩ := key_in_addArguments (m := lines) hsel hr
  rcases mem_addArguments hq with hl | ⟨hq2, _, _⟩
  · exact Or.inr ⟨v', hl⟩
  · cases Meta.eq_of_nodup_map Prod.fst _ (selectKwargs_keys_nodup condParams hd) _ _ hq2 hsel rfl
    exact Or.inl (List.mem_mergeSort.mpr hq)

/-- the exception is real: `lambda x: x > y` (a global `y = 100`) on `def f(x, y)` called `f(5, 1)` - the line `y`
shows the variable the condition read, the argument `y = 1` has no line -/
example : ("y", Val.int 1) ∉ reprPairs [("x", .int 5), ("y", .int 100)] ["x"] [("x", .int 5), ("y", .int 1)] := by
  intro h
  rcases mem_reprPairs h with h | ⟨_, _, h3⟩
  · simp at h
  · exact h3 ("y", .int 100) (by simp) rfl

/-- non-vacuity: a name bound in all three look-ups -/
example : lookupT (Tbl.ofLookups [[("x", .int 1)], [("x", .int 2), ("c", .int 5)], [("x", .int 3), ("c", .int 6), ("g", .int 7)]]) "c"
    = some (some (.int 5)) := by rfl

/-- **The reported example of a failing `all(...)` is the first falsifying assignment**: it occurs in the iteration,
the element is falsy for it, and the element is truthy for every assignment before it. -/
theorem C06_all_example_is_first_falsifying {A : Type} (elt : A → Except String Bool) (xs : List A) (a : A)
    (h : traceAll elt xs = .ok (some a)) :
    ∃ pre post, xs = pre ++ a :: post ∧ elt a = .ok false ∧ ∀ b ∈ pre, elt b = .ok true := by
  induction xs with
  | nil => cases h
  | cons x rest ih =>
    unfold traceAll at h
    obtain ⟨b, hx, h⟩ := Except.bind_eq_ok_iff.mp h
    cases b with
    | false =>
      cases h
      exact ⟨[], rest, rfl, hx, nofun⟩
    | true =>
      obtain ⟨pre, post, rfl, hfa, hpre⟩ := ih h
      exact ⟨x :: pre, post, rfl, hfa, List.forall_mem_cons.mpr ⟨hx, hpre⟩⟩

/-- ... and an example is reported exactly when Python's `all(...)` is `False`; when it is `True` there is none -/
theorem C06_all_example_iff_python_false {A : Type} (elt : A → Except String Bool) (xs : List A) :
    (pyAll elt xs = .ok false ↔ ∃ a, traceAll elt xs = .ok (some a)) ∧
    (pyAll elt xs = .ok true ↔ traceAll elt xs = .ok none) ∧
    (∀ e, pyAll elt xs = .error e ↔ traceAll elt xs = .error e) := by
  have hpy : pyAll elt xs = (traceAll elt xs).map Option.isNone := by
    induction xs with
    | nil => rfl
    | cons x rest ih =>
      unfold pyAll traceAll
      cases elt x with
      | error e => rfl
      | ok b =>
        cases b with
        | false => rfl
        | true => exact ih
  rw [hpy]
  cases traceAll elt xs with
  | error e => simp [Except.map]
  | ok o => cases o <;> simp [Except.map]

/-- non-vacuity -/
example : traceAll (fun n : Nat => .ok (n < 3)) [0, 1, 2, 5, 1, 7] = .ok (some 5) := by rfl

end Icontract.Ex
