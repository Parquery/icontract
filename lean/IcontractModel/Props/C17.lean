/-
  C17 - defining a class or decorating a function never changes another's contracts.
  Frame properties of the heap model: which cells and which checker bindings an operation can write.
-/
import IcontractModel.Meta
import IcontractModel.Lemmas.MetaClass
import IcontractModel.Lemmas.Separation
import IcontractModel.Spec.Override
import IcontractModel.Spec.DagHistoryInv
import IcontractModel.Lemmas.DagInvLemmas
namespace Icontract.Meta

/-- everything introspection can show about the functions and classes that exist in `w` is a function of
the cells below `w.heap.length`, the checker bindings and the class table -/
def Preserves (w w' : World) : Prop :=
  (∀ r < w.heap.length, w'.heap.get r = w.heap.get r) ∧ w.heap.length ≤ w'.heap.length

/-- **Defining a class never writes to an existing list**: every heap cell that existed before the
class statement holds the same list afterwards (the namespace pass only allocates), for every
world, bases, namespace - accepted or not. -/
theorem C17_defineClass_preserves_existing_cells (w w' : World) (k : ClsId) (bases : List ClsId)
    (ns : List (String × Member)) (dbc hook : Bool)
    (h : defineClass w k bases ns dbc hook = .ok w') : Preserves w w' :=
  (defineClass_frame h).1

/-- ... it re-binds the checker attributes of the functions in its own namespace only -/
theorem C17_defineClass_rebinds_only_own_functions (w w' : World) (k : ClsId) (bases : List ClsId)
    (ns : List (String × Member)) (dbc hook : Bool)
    (h : defineClass w k bases ns dbc hook = .ok w')
    (f : FnId) (hf : ∀ p ∈ ns, ∀ which, memberFnId p.2 which ≠ some f) :
    w'.checker? f = w.checker? f :=
  (defineClass_frame h).2.1 f
    (fun ⟨p, hp, which, hw⟩ => hf p hp which hw)

/-- ... and leaves every earlier class's own namespace, invariant references and MRO alone -/
theorem C17_defineClass_keeps_earlier_classes (w w' : World) (k : ClsId) (bases : List ClsId)
    (ns : List (String × Member)) (dbc hook : Bool)
    (h : defineClass w k bases ns dbc hook = .ok w') (hk : w.cls? k = none) :
    ∀ c ∈ w.classes, c ∈ w'.classes :=
  (defineClass_frame h).2.2 hk

/-- **A REFUSED class statement changes nobody else either.**  `DBCMeta.__new__` decorates the namespace before the
class object exists, so a statement that is refused half-way (a weakening precondition, clashing snapshot names, an
inconsistent MRO) has already re-bound the lists of its own member functions (`defineClassResidue`); but no existing
list is written, no class and no hook registration changes, and the checker of every function that is not a member of
the refused class is what it was. -/
theorem C17_rejected_class_statement_stays_in_its_namespace (w : World) (bases : List ClsId)
    (ns : List (String × Member)) :
    Preserves w (defineClassResidue w bases ns) ∧
    (defineClassResidue w bases ns).classes = w.classes ∧
    (defineClassResidue w bases ns).hookCalls = w.hookCalls ∧
    ∀ f, (∀ p ∈ ns, ∀ which, memberFnId p.2 which ≠ some f) →
      (defineClassResidue w bases ns).checker? f = w.checker? f := by
  have h := defineClassResidue_frame bases ns w
  exact ⟨h.heap, h.classes, h.hooks, fun f hf => h.checkers f (fun ⟨p, hp, which, hw⟩ => hf p hp which hw)⟩

/-- hence the contracts of a function that the new class does not define are exactly what they were -/
theorem C17_earlier_function_contracts_unchanged (w w' : World) (k : ClsId) (bases : List ClsId)
    (ns : List (String × Member)) (dbc hook : Bool)
    (h : defineClass w k bases ns dbc hook = .ok w')
    (f : FnId) (hf : ∀ p ∈ ns, ∀ which, memberFnId p.2 which ≠ some f)
    (ck : CheckerObj) (hck : w.checker? f = some ck)
    (hwf : ck.pre < w.heap.length ∧ ck.snaps < w.heap.length ∧ ck.posts < w.heap.length ∧
           ∀ g ∈ w.heap.get ck.pre, g < w.heap.length) :
    preOf w' f = preOf w f ∧ postsOf w' f = postsOf w f ∧ snapsOf w' f = snapsOf w f := by
  have hp := C17_defineClass_preserves_existing_cells w w' k bases ns dbc hook h
  refine observe_eq_of_cells (C17_defineClass_rebinds_only_own_functions w w' k bases ns dbc hook h f hf)
    (fun ck' hck' r hr => hp.1 r ?_)
  cases hck.symm.trans hck'
  exact (forall_mem_cellsOf (P := fun r => r < w.heap.length)).mpr hwf r hr

/-- **Decorating a fresh function** (one without a checker yet) writes to no existing cell -/
theorem C17_decorating_fresh_function_preserves (w : World) (f : FnId) (c : CId) (h : w.checker? f = none) :
    Preserves w (addPre w f c) ∧ Preserves w (addPost w f c) := by
  rw [addPre_fresh_eq c h, addPost_fresh_eq c h]
  exact ⟨HPres.app, HPres.app⟩

/-- **The invariant decorator on a class that owns its three lists** (always the case for a class on the
contract-inheriting base whose bases carry invariants - C04_subclass_gets_own_invariant_lists - and
for a class receiving its first invariant) writes to those three cells only. -/
theorem C17_invariant_decorator_writes_own_lists_only (w : World) (k : ClsId) (c : CId) (on : CheckOn)
    (cls : Cls) (hc : w.cls? k = some cls) (r1 r2 r3 : Ref)
    (h1 : cls.inv = some r1) (h2 : cls.invCall = some r2) (h3 : cls.invSetattr = some r3)
    (hmro : cls.mro.head? = some k) :
    ∀ r, r ≠ r1 → r ≠ r2 → r ≠ r3 → (addInvariant w k c on).heap.get r = w.heap.get r := by
  intro r hr1 hr2 hr3
  have l1 := lookupInv_own hc hmro .all h1
  have l2 := lookupInv_own hc hmro .onCall h2
  have l3 := lookupInv_own hc hmro .onSetattr h3
  rw [addInvariant_eq c on hc, addInvariantChecks_heap, prepareInv_some cls l1]
  apply Heap.app3_other
  intro d
  rw [invRefs_some l1]
  cases d <;> simp only [l1, l2, l3, Option.getD_some] <;> assumption

/-- first invariant of a class with no reachable list: three fresh cells, nothing existing is touched -/
theorem C17_first_invariant_allocates (w : World) (k : ClsId) (c : CId) (on : CheckOn)
    (cls : Cls) (hc : w.cls? k = some cls) (hnone : lookupInv w k .all = none) :
    ∀ r < w.heap.length, (addInvariant w k c on).heap.get r = w.heap.get r := by
  intro r hr
  rw [addInvariant_eq c on hc, addInvariantChecks_heap, prepareInv_none cls hnone, invRefs_none hnone]
  show (Heap.app3 (w.heap ++ [[], [], []]) (refsAt w.heap.length) on c).get r = _
  rw [Heap.app3_other, Heap.get_app_lt _ hr]
  exact fun d => Nat.ne_of_lt (Nat.lt_of_lt_of_le hr (refsAt_bounds w.heap.length d).1)

/-- **A late decoration stays local**: when no two functions share a list cell, adding a precondition, a
postcondition (in place, as `@require` / `@ensure` applied to an already contracted member do) to function `f` leaves
everything introspection shows about every other function `g` exactly as it was. -/
theorem C17_late_decoration_stays_local (w : World) (f g : FnId) (c : CId) (hfg : f ≠ g)
    (hsep : Separated w) (hwf : CheckersWf w) (hf : (w.checker? f).isSome = true) :
    (preOf (addPre w f c) g = preOf w g ∧ postsOf (addPre w f c) g = postsOf w g ∧ snapsOf (addPre w f c) g = snapsOf w g) ∧
    (preOf (addPost w f c) g = preOf w g ∧ postsOf (addPost w f c) g = postsOf w g ∧ snapsOf (addPost w f c) g = snapsOf w g) := by
  obtain ⟨ckf, hckf⟩ := Option.isSome_iff_exists.mp hf
  exact ⟨addPre_local c hfg hsep hwf hckf, addPost_local c hfg hsep hckf⟩

/-- **Defining a class keeps the functions separated** (the groups collected from the bases are copied, the three
lists of every member are fresh): so after any history of decorations and class definitions starting from the empty
world a late decoration is local. -/
theorem C17_defineClass_preserves_separation (w w' : World) (k : ClsId) (bases : List ClsId)
    (ns : List (String × Member)) (dbc : Bool)
    (hsep : Separated w) (hwf : CheckersWf w)
    (h : defineClass w k bases ns dbc = .ok w') :
    Separated w' ∧ CheckersWf w' := by
  exact sepWf_iff.mp (defineClass_sepWf h (sepWf_iff.mpr ⟨hsep, hwf⟩))

/-! ### class invariants over inheritance graphs of any shape -/

/-- separation, stated directly: an invariant declared on class `j+1` is in the lists of class `i+1` only if `j+1` is
one of its ancestors (or the class itself) -/
theorem C17_dag_foreign_invariants_never_arrive (ds : List ClassDefI) (hwf : HistWfI ds) (w : World)
    (h : buildHistI {} 1 ds = .ok w) (i j : Nat) (hi : i < ds.length) (hj : j < ds.length) (d : InvDunder) (c : CId)
    (hc : c ∈ ownInvOn ds j d) (hin : c ∈ invOf w (i + 1) d) : (j + 1) ∈ mroOf w (i + 1) := by
  have inv := buildHistI_IInv hwf h
  have h1 : 1 ≤ i + 1 := Nat.succ_le_succ (Nat.zero_le _)
  obtain ⟨a, ha, hca⟩ := (inv.mem_invOf h1 hi d c).mp hin
  have hbd := (inv.mroOf_bounds h1 hi a ha).1
  have e : j = a - 1 := ownInvOn_idx hwf hc hca
  rw [e, Nat.sub_add_cancel hbd]
  exact ha

end Icontract.Meta
