/-
  C03 - invariants are checked around every public operation on a constructed object.
  (a) which members are guarded: a decision table over member names (arbitrary strings) and kinds;
  (b) what a guarded operation does: properties of the frame semantics (Spec/Frames.lean), which by
      C10_set_discipline_is_frame_semantics is what the wrappers' set discipline computes.
-/
import IcontractModel.Inv
import IcontractModel.Spec.Frames
import IcontractModel.Lemmas.InvTable
import IcontractModel.Lemmas.Frames
namespace Icontract.Inv
open Icontract.Meta

/-- **Which members are guarded on calls**: for every name and member kind, a member of a processed
class with at least one on-call invariant is wrapped iff it is a Python function or property whose
name is public or dunder and not one of `__new__`, `__repr__`, `__getattribute__` (constructors and
`__setattr__` are handled separately). -/
theorem C03_call_guard_table (invs : List CheckOn) (name : String) (m : Member)
    (hc : (unionOn invs).call = true) (hn : name ≠ "__init__") (hs : name ≠ "__setattr__") :
    guardOf invs name m = .onCall ↔ mustGuardOnCall name m = true := by
  have hne : invs.isEmpty = false := by
    cases invs with
    | nil => cases hc
    | cons c cs => rfl
  simp only [guardOf, hne, wrapCandidate_of_ne hn hs, hc, Bool.true_and,
    beq_eq_false_iff_ne.2 hn, beq_eq_false_iff_ne.2 hs, Bool.false_eq_true, if_false]
  cases mustGuardOnCall name m <;> simp

/-- never around non-public methods, class and static methods, `__repr__`, `__getattribute__`, `__new__` -/
theorem C03_never_guarded (invs : List CheckOn) (name : String) (m : Member)
    (h : (name.startsWith "_" = true ∧ isDunderName name = false) ∨
         (∃ f, m = .static f) ∨ (∃ f, m = .classm f) ∨ m = .other ∨
         name = "__repr__" ∨ name = "__getattribute__" ∨ name = "__new__") :
    guardOf invs name m = .none := by
  suffices hw : wrapCandidate (unionOn invs) name m = false by
    unfold guardOf
    rw [hw]
    cases invs.isEmpty <;> rfl
  rw [wrapCandidate_eq]
  rcases h with ⟨hp, hd⟩ | ⟨f, rfl⟩ | ⟨f, rfl⟩ | rfl | rfl | rfl | rfl
  · have hi : name ≠ "__init__" := fun hi => by rw [hi, dunder_init] at hd; cases hd
    simp only [if_neg hi, isPublicOrDunder, hp, hd, Bool.not_true, Bool.or_false, Bool.and_false,
      Bool.false_and, ite_self]
  · simp only [Bool.and_false, ite_self]
  · simp only [Bool.and_false, ite_self]
  · simp only [Bool.and_false, ite_self]
  · exact if_pos (by simp [exemptNames])
  · exact if_pos (by simp [exemptNames])
  · exact if_pos (by simp [exemptNames])

/-- attribute assignment is guarded iff attribute-set checking was requested by some invariant of the
class (own or inherited), and then exactly the invariants that requested it are evaluated -/
theorem C03_setattr_only_if_requested (invs : List CheckOn) (f : FnId) :
    (guardOf invs "__setattr__" (.func f) = .onSetattr ↔ (unionOn invs).setattr = true) ∧
    (assignGuard invs = .onSetattr ↔ (unionOn invs).setattr = true) ∧
    (∀ i ∈ evaluatedOnce invs .onSetattr, ∃ c, invs[i]? = some c ∧ c.setattr = true) := by
  refine ⟨?_, ?_, fun i => (mem_evaluatedOnce invs i).2.1⟩
  · have hi : ("__setattr__" == "__init__") = false := beq_eq_false_iff_ne.2 (by simp)
    unfold guardOf
    rw [wrapCandidate_setattr, hi, Bool.and_true]
    cases invs with
    | nil => simp [unionOn]
    | cons c cs => cases (unionOn (c :: cs)).setattr <;> simp
  · unfold assignGuard
    cases (unionOn invs).setattr <;> simp

/-- the decision uses *all* invariants of the class, in any order of decoration -/
theorem C03_guard_independent_of_decorator_order (invs invs' : List CheckOn) (name : String) (m : Member)
    (h : ∀ c, c ∈ invs ↔ c ∈ invs') :
    guardOf invs name m = guardOf invs' name m := by
  -- `guardOf` looks at the list only through `any` and `isEmpty`, which see only its members
  have hany : ∀ p : CheckOn → Bool, invs.any p = invs'.any p := fun p => by
    rw [Bool.eq_iff_iff]
    simp only [List.any_eq_true, h]
  have hemp : invs.isEmpty = invs'.isEmpty := by
    rw [Bool.eq_iff_iff]
    simp only [List.isEmpty_iff, List.eq_nil_iff_forall_not_mem, h]
  unfold guardOf unionOn
  rw [hany, hany, hemp]

/-- a guarded call evaluates exactly the on-call invariants, the constructor all of them -/
theorem C03_selected_invariants (invs : List CheckOn) :
    (∀ i, i ∈ evaluatedOnce invs .onCall ↔ ∃ c, invs[i]? = some c ∧ c.call = true) ∧
    evaluatedOnce invs .ctor = List.range invs.length :=
  ⟨fun i => (mem_evaluatedOnce invs i).1, rfl⟩

end Icontract.Inv

namespace Icontract.Re

/-- **Invariants are never evaluated on an object whose construction has not finished**: in the frame
semantics, while a constructor frame of `i` is on the stack every command leaves the trace free of
new invariant events for `i`. -/
theorem C03_no_invariant_during_construction (p : Program) (fuel : Nat) (st : SSt) (cmd : Cmd) (i : InstId)
    (h : st.underConstruction i = true)
    (hcmd : ∀ k cs, cmd ≠ .invs i k cs) :
    invEventsOf i (runSpec p fuel st cmd).1.tr = invEventsOf i st.tr := by
  have hcmd' : cmd.Avoids (· = i) := by
    cases cmd with
    | invs j k cs => exact fun e => hcmd k cs (e ▸ rfl)
    | _ => trivial
  exact (runSpec_quiet (· = i) (fun _ e => e ▸ SSt.instSuspended_of_underConstruction h) hcmd').invEventsOf_eq

/-- **All invariants right after the outermost constructor returns**: a successful outermost
construction ends with the evaluation of every invariant of the instance's class, in order, and the
last event before them belongs to the constructor's body. -/
theorem C03_invariants_after_outermost_constructor (p : Program) (fuel : Nat) (st : SSt) (i : InstId)
    (c : ClsDecl) (hc : p.cls? (p.clsOf i) = some c)
    (hfree : st.instSuspended i = false)
    (hok : (runSpec p fuel st (.act (.construct i))).2 = .ok)
    (hplain : ∀ s ∈ c.invs, s.actions = []) :
    ∃ mid, (runSpec p fuel st (.act (.construct i))).1.tr =
      mid ++ (List.range c.invs.length).map (fun k => Ev.inv i k) ∧
      invEventsOf i mid = invEventsOf i st.tr := by
  rcases fuel with _ | _ | m
  · cases hok
  · cases hok
  rw [runSpec_construct, runSpec_superInit_checked hc hfree, hc] at hok ⊢
  have h1 : (framed (.inst i) .ctor st
      (fun st => runSpec p m (st.emit (.initBody i (p.clsOf i))) (.script c.init))).2 = .ok :=
    Decidable.byContradiction fun h => h (by rw [andThen_ne h] at hok; exact hok)
  rw [andThen_ok h1] at hok ⊢
  -- the constructor's body runs under the frame `(.inst i, .ctor)`, which suspends `i`
  have hq : Quiet (· = i) (st.push (.inst i) .ctor)
      (runSpec p m ((st.push (.inst i) .ctor).emit (.initBody i (p.clsOf i))) (.script c.init)).1 := by
    refine (Quiet.emit nofun).trans (runSpec_quiet _ (fun j hj => ?_) trivial)
    subst hj
    exact (SSt.instSuspended_push st _ _ j).trans (by rw [beq_self_eq_true]; rfl)
  exact ⟨_, (runSpec_invs_plain_ok hplain hok).trans (by rw [List.range_eq_range']; rfl),
    hq.invEventsOf_eq⟩

/-- **A violation found before the call keeps the body from running**: if some invariant is falsy
(and makes no calls), a guarded method call from outside raises it and the body event never appears. -/
theorem C03_violation_before_blocks_body (p : Program) (fuel : Nat) (st : SSt) (i : InstId) (m : MethId)
    (c : ClsDecl) (md : MethDecl) (hc : p.cls? (p.clsOf i) = some c) (hm : c.meths[m]? = some md)
    (hg : md.guarded = true) (hfree : st.instSuspended i = false)
    (k : Nat) (s : Script) (hk : c.invs[k]? = some s) (hfalse : s.truthy = false)
    (hplain : ∀ s ∈ c.invs, s.actions = []) (hfirst : ∀ j s', j < k → c.invs[j]? = some s' → s'.truthy = true)
    (hfuel : c.invs.length + 6 ≤ fuel) :
    (runSpec p fuel st (.act (.callMethod i m))).2 = .violInv i k ∧
    Ev.methBody i m ∉ (runSpec p fuel st (.act (.callMethod i m))).1.tr.drop st.tr.length := by
  obtain ⟨n, rfl⟩ := Nat.exists_eq_add_of_le' (Nat.le_trans (Nat.le_add_left 6 _) hfuel)
  have hkn : k < n := Nat.lt_of_lt_of_le (List.getElem?_eq_some_iff.1 hk).1 (Nat.le_of_add_le_add_right hfuel)
  -- one level for the call, then `k + 3` for the invariants up to the falsy one (less than `hfuel` grants)
  obtain ⟨h1, h2⟩ := runSpec_invs_plain_viol p i (n + 5) (st.push (.inst i) .invEval) 0 hplain hk hfalse
    hfirst (Nat.add_le_add (Nat.le_of_lt hkn) (by decide))
  have hmeth : p.meth? i m = some (c, md) := Program.meth?_eq_some_iff.2 ⟨hc, hm⟩
  have hchk : (!md.guarded || st.instSuspended i) = false := by rw [hg, hfree]; rfl
  rw [Nat.zero_add] at h1
  -- the invariants before the body end in the violation, so the call ends there
  rw [runSpec_callMethod_checked hmeth hchk, andThen_ne (by rw [framed_out, h1]; exact nofun)]
  refine ⟨h1, ?_⟩
  rw [framed_tr, h2]
  show Ev.methBody i m ∉ (st.tr ++ _).drop st.tr.length
  rw [List.drop_left]
  intro hmem
  obtain ⟨n, _, hn⟩ := List.mem_map.1 hmem
  cases hn

end Icontract.Re
